import SekaiProofs.Props.C01
import SekaiProofs.Props.C02
import SekaiProofs.Props.C03
import SekaiProofs.Props.C04
import SekaiProofs.Props.C05
import SekaiProofs.Props.C06
import SekaiProofs.Props.C07
import SekaiProofs.Props.C08
import SekaiProofs.Props.C09
import SekaiProofs.Props.C10
import SekaiProofs.Props.C11
import SekaiProofs.Props.C12
import SekaiProofs.Props.C13
import SekaiProofs.Props.C14
import SekaiProofs.Props.C15
import SekaiProofs.Props.C16
import SekaiProofs.Props.C17
import SekaiProofs.Props.C18
import SekaiProofs.Props.C19
import SekaiProofs.Props.C20
import SekaiProofs.Props.REC
