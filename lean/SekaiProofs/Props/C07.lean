import Sekai.Model.Perm
import Sekai.Gen.Gates
import SekaiProofs.Lemmas.Perm
/-! # C07 — Permissions: blacklist beats whitelist; index-based voter sets are exact

The permission map filled in four passes equals the defining rule, for every configuration (no bound on list sizes); the three
secondary indexes equal what the primary records say after EVERY sequence of the eleven edit operations; the index walk used for
quorum returns exactly the actors whose own or role whitelist carries the permission; which message handlers and proposal contents
test which permission (regenerated from the source), and what such a test guarantees. -/
namespace Sekai.Props.C07
open Sekai.Perm

/-- core `List.contains_iff_mem` for the `contains` of the model's guards; the proofs below get it from `simp` and do not cite it -/
theorem contains_iff {l : List Nat} {p : Nat} : l.contains p = true ↔ p ∈ l := by simp

/-- **blacklist beats whitelist, directly or through any role** — for every configuration -/
theorem check_iff_rule (roles : List Perms) (own : Perms) (p : Nat) :
    check roles own p = true ↔
      (p ∈ own.wl ∨ ∃ r ∈ roles, p ∈ r.wl) ∧ p ∉ own.bl ∧ ∀ r ∈ roles, p ∉ r.bl := by
  unfold check
  simp only
  rw [get_setAll, get_foldl_roles (fun r => r.bl), get_setAll, get_foldl_roles (fun r => r.wl)]
  rw [show (∀ r ∈ roles, p ∉ r.bl) ↔ ¬ ∃ r ∈ roles, p ∈ r.bl by simp]
  -- the four passes, last one first: the first that wrote at `p` decides
  by_cases hb : p ∈ own.bl
  · simp [hb]
  by_cases hrb : ∃ r ∈ roles, p ∈ r.bl
  · simp [hb, hrb]
  by_cases hw : p ∈ own.wl
  · simp [hb, hrb, hw]
  by_cases hrw : ∃ r ∈ roles, p ∈ r.wl <;> simp [hb, hrb, hw, hrw, PMap.get?]

example : check [⟨[7, 8], []⟩] ⟨[], [7]⟩ 7 = false ∧ check [⟨[7, 8], []⟩] ⟨[], [7]⟩ 8 = true := by decide

/-- the rule of the property, over the stored records -/
def Holds (s : St) (a p : Nat) : Prop :=
  ∃ x, s.actors a = some x ∧
    (p ∈ x.perms.wl ∨ ∃ r ∈ x.roles, ∃ ps, s.roleReg r = some ps ∧ p ∈ ps.wl) ∧
    p ∉ x.perms.bl ∧ ∀ r ∈ x.roles, ∀ ps, s.roleReg r = some ps → p ∉ ps.bl

/-- **An actor holds a permission exactly when it is whitelisted for the actor directly or through any
assigned role and is blacklisted neither directly nor through any assigned role.** -/
theorem checkAllowed_iff_rule (s : St) (a p : Nat) : checkAllowed s a p = true ↔ Holds s a p := by
  unfold checkAllowed Holds
  cases s.actors a with
  | none => simp
  | some x =>
    simp only [check_iff_rule, rolePermsOf, exists_mem_filterMap, List.forall_mem_filterMap, Option.some.injEq,
      exists_eq_left']

/-- each index mirrors its records (three `Perm.Mirrors`, spelled out so that the invariant reads without the lemma module),
every assigned role exists, and role ids from the counter on are free -/
structure Inv (s : St) : Prop where
  permAddr : ∀ p a, (p, a) ∈ s.idxPermAddr ↔ ∃ x, s.actors a = some x ∧ p ∈ x.perms.wl
  roleAddr : ∀ r a, (r, a) ∈ s.idxRoleAddr ↔ ∃ x, s.actors a = some x ∧ r ∈ x.roles
  permRole : ∀ p r, (p, r) ∈ s.idxPermRole ↔ ∃ ps, s.roleReg r = some ps ∧ p ∈ ps.wl
  wlNodup : ∀ a x, s.actors a = some x → x.perms.wl.Nodup
  rolesNodup : ∀ a x, s.actors a = some x → x.roles.Nodup
  rwlNodup : ∀ r ps, s.roleReg r = some ps → ps.wl.Nodup
  rolesExist : ∀ a x, s.actors a = some x → ∀ r ∈ x.roles, ∃ ps, s.roleReg r = some ps
  nextFresh : ∀ r, s.nextRole ≤ r → s.roleReg r = none

theorem inv_init : Inv ({} : St) := by
  constructor <;> simp

theorem inv_setActor {s : St} (hI : Inv s) {a : Nat} {x' : Actor} {ipa ira : List (Nat × Nat)}
    (hp : Tracks a s.idxPermAddr ipa (actorOrDefault s a).perms.wl x'.perms.wl)
    (hr : Tracks a s.idxRoleAddr ira (actorOrDefault s a).roles x'.roles)
    (hex : ∀ r ∈ x'.roles, r ∈ (actorOrDefault s a).roles ∨ ∃ ps, s.roleReg r = some ps) :
    Inv { setActor s a x' with idxPermAddr := ipa, idxRoleAddr := ira } :=
  have mp := Mirrors.update (f := s.actors) (sel := (·.perms.wl)) ⟨hI.permAddr, hI.wlNodup⟩ a x' {} rfl hp
  have mr := Mirrors.update (f := s.actors) (sel := (·.roles)) ⟨hI.roleAddr, hI.rolesNodup⟩ a x' {} rfl hr
  have old : ∀ r ∈ (actorOrDefault s a).roles, ∃ ps, s.roleReg r = some ps :=
    forall_getD (P := fun x : Actor => ∀ r ∈ x.roles, ∃ ps, s.roleReg r = some ps) (fun _ h => (List.not_mem_nil h).elim)
      hI.rolesExist a
  { permAddr := mp.mem, wlNodup := mp.nodup
    roleAddr := mr.mem, rolesNodup := mr.nodup
    permRole := hI.permRole, rwlNodup := hI.rwlNodup
    rolesExist := forall_update (fun r hr => (hex r hr).elim (old r) id) hI.rolesExist
    nextFresh := hI.nextFresh }

/-- a role without entry counts as one with empty lists -/
theorem inv_setRole {s : St} (hI : Inv s) {r : Nat} {ps' : Perms} {ipr : List (Nat × Nat)} {n : Nat}
    (ht : Tracks r s.idxPermRole ipr ((s.roleReg r).getD {}).wl ps'.wl) (hn : s.nextRole ≤ n) (hr : r < n) :
    Inv { setRole s r ps' with idxPermRole := ipr, nextRole := n } := by
  have m := Mirrors.update (f := s.roleReg) (sel := (·.wl)) ⟨hI.permRole, hI.rwlNodup⟩ r ps' {} rfl ht
  refine { permAddr := hI.permAddr, wlNodup := hI.wlNodup
           roleAddr := hI.roleAddr, rolesNodup := hI.rolesNodup
           permRole := m.mem, rwlNodup := m.nodup
           rolesExist := fun b x hb q hq => ?exist
           nextFresh := fun q (hq : n ≤ q) => ?fresh }
  case exist =>
    obtain ⟨ps, hps⟩ := hI.rolesExist b x hb q hq
    by_cases hqr : q = r
    · exact ⟨ps', by simp [setRole, hqr]⟩
    · exact ⟨ps, by simp [setRole, hqr, hps]⟩
  case fresh =>
    have : q ≠ r := by omega
    simpa [setRole, this] using hI.nextFresh q (by omega)

theorem inv_editRole {s : St} (hI : Inv s) {r : Nat} {ps ps' : Perms} {ipr : List (Nat × Nat)}
    (hr : s.roleReg r = some ps) (ht : Tracks r s.idxPermRole ipr ps.wl ps'.wl) :
    Inv { setRole s r ps' with idxPermRole := ipr } :=
  inv_setRole hI (n := s.nextRole) (by rw [hr]; exact ht) (Nat.le_refl _)
    (Nat.lt_of_not_le fun h => nomatch hr.symm.trans (hI.nextFresh r h))

/-- **every edit operation preserves the index invariant** -/
theorem inv_step (s s' : St) (op : Op) (hI : Inv s) (h : step s op = some s') : Inv s' := by
  cases Step.of_step h with
  | wlAcct hps' => exact inv_setActor hI (ira := s.idxRoleAddr) (addWl_tracks hps') .same fun _ => Or.inl
  | blAcct hps' => exact inv_setActor hI (ipa := s.idxPermAddr) (ira := s.idxRoleAddr) (addBl_tracks hps') .same fun _ => Or.inl
  | rmWlAcct hps' => exact inv_setActor hI (ira := s.idxRoleAddr) (rmWl_tracks hps') .same fun _ => Or.inl
  | rmBlAcct hps' => exact inv_setActor hI (ipa := s.idxPermAddr) (ira := s.idxRoleAddr) (rmBl_tracks hps') .same fun _ => Or.inl
  | assign hr hc =>
    exact inv_setActor hI (ipa := s.idxPermAddr) .same (.insert hc) fun q hq =>
      (List.mem_append.mp hq).imp_right fun e => ⟨_, List.mem_singleton.mp e ▸ hr⟩
  | unassign _ _ =>
    exact inv_setActor hI (ipa := s.idxPermAddr) .same .delete fun q hq => Or.inl (List.mem_of_mem_erase hq)
  | createRole =>
    exact inv_setRole hI (ipr := s.idxPermRole)
      (by rw [hI.nextFresh _ (Nat.le_refl _)]; exact .same) (Nat.le_succ _) (Nat.lt_succ_self _)
  | wlRole hr hps' => exact inv_editRole hI hr (addWl_tracks hps')
  | blRole hr hps' => exact inv_editRole hI hr (ipr := s.idxPermRole) (addBl_tracks hps')
  | rmWlRole hr hps' => exact inv_editRole hI hr (rmWl_tracks hps')
  | rmBlRole hr hps' => exact inv_editRole hI hr (ipr := s.idxPermRole) (rmBl_tracks hps')

/-- **the indexes agree with the records after every history of edits** (messages, proposals — every
path calls these keeper functions; failed ops leave the state unchanged) -/
theorem inv_reach (ops : List Op) : Inv (ops.foldl apply {}) :=
  Fold.getD_inv ops (fun op _ s s' hI h => inv_step s s' op hI h) inv_init

/-- **the eligible-voter set used for quorum contains exactly the actors whose own or role whitelist
carries the permission** -/
theorem voters_exact (s : St) (hI : Inv s) (a p : Nat) :
    a ∈ voters s p ↔ ∃ x, s.actors a = some x ∧
      (p ∈ x.perms.wl ∨ ∃ r ∈ x.roles, ∃ ps, s.roleReg r = some ps ∧ p ∈ ps.wl) := by
  unfold voters
  simp only [List.mem_eraseDups, List.mem_append, List.mem_flatMap, mem_slice, hI.permAddr, hI.permRole, hI.roleAddr]
  constructor
  · rintro (⟨x, hx, h⟩ | ⟨r, ⟨ps, hps, hp⟩, x, hx, hr⟩)
    · exact ⟨x, hx, Or.inl h⟩
    · exact ⟨x, hx, Or.inr ⟨r, hr, ps, hps, hp⟩⟩
  · rintro ⟨x, hx, h | ⟨r, hr, ps, hps, hp⟩⟩
    · exact Or.inl ⟨x, hx, h⟩
    · exact Or.inr ⟨r, ⟨ps, hps, hp⟩, x, hx, hr⟩

/-- every index entry points to an existing actor: the index walk never hits the Go
`GetNetworkActorOrFail` panic -/
theorem voters_exist (s : St) (hI : Inv s) (a p : Nat) (h : a ∈ voters s p) : (s.actors a).isSome := by
  obtain ⟨x, hx, _⟩ := (voters_exact s hI a p).mp h
  simp [hx]

example :
    let s := [Op.createRole, .wlRole 1 7, .assign 3 1, .wlAcct 4 7, .blAcct 3 7].foldl apply {}
    checkAllowed s 3 7 = false ∧ checkAllowed s 4 7 = true ∧ voters s 7 = [4, 3] := by decide

/-- the permission checks found in the msg-server methods of the current source (methods without any check
are not listed; removing a check from a method below, or changing its constant or subject, changes this list) -/
def expectedGates : List (String × String × List String) := [
  ("basket", "DisableBasketDeposits", ["PermHandleBasketEmergency@sender"]),
  ("basket", "DisableBasketSwaps", ["PermHandleBasketEmergency@sender"]),
  ("basket", "DisableBasketWithdraws", ["PermHandleBasketEmergency@sender"]),
  ("gov", "AssignRole", ["PermUpsertRole@msg.Proposer"]),
  ("gov", "BlacklistPermissions", ["PermSetClaimValidatorPermission@msg.Proposer", "PermSetPermissions@msg.Proposer"]),
  ("gov", "BlacklistRolePermission", ["PermUpsertRole@msg.Proposer"]),
  ("gov", "ClaimCouncilor", ["PermClaimCouncilor@msg.Address"]),
  ("gov", "CreateRole", ["PermUpsertRole@msg.Proposer"]),
  ("gov", "PollCreate", ["PermCreatePollProposal@msg.Creator"]),
  ("gov", "RemoveBlacklistRolePermission", ["PermUpsertRole@msg.Proposer"]),
  ("gov", "RemoveBlacklistedPermissions", ["PermSetClaimValidatorPermission@msg.Proposer", "PermSetPermissions@msg.Proposer"]),
  ("gov", "RemoveWhitelistRolePermission", ["PermUpsertRole@msg.Proposer"]),
  ("gov", "RemoveWhitelistedPermissions", ["PermSetClaimValidatorPermission@msg.Proposer", "PermSetPermissions@msg.Proposer"]),
  ("gov", "SetExecutionFee", ["PermChangeTxFee@msg.Proposer"]),
  ("gov", "SetNetworkProperties", ["PermChangeTxFee@msg.Proposer"]),
  ("gov", "SubmitProposal", ["content.ProposalPermission()@msg.Proposer"]),
  ("gov", "UnassignRole", ["PermUpsertRole@msg.Proposer"]),
  ("gov", "VoteProposal", ["content.VotePermission()@msg.Voter"]),
  ("gov", "WhitelistPermissions", ["PermSetClaimValidatorPermission@msg.Proposer", "PermSetPermissions@msg.Proposer"]),
  ("gov", "WhitelistRolePermission", ["PermUpsertRole@msg.Proposer"]),
  ("layer2", "CreateDappProposal", ["PermCreateDappProposalWithoutBond@addr"]),
  ("staking", "ClaimValidator", ["PermClaimValidator@sdk.AccAddress(msg.ValKey)"]),
  ("tokens", "UpsertTokenInfo", ["PermUpsertTokenInfo@msg.Proposer"])
]

theorem gates_as_expected :
    Sekai.Gen.Gates.gates.filter (fun g => !g.2.2.isEmpty) = expectedGates := by rfl

def expectedContentPerms : List (String × String × String × String) := [
  ("basket", "ProposalBasketWithdrawSurplus", "ProposalPermission", "PermCreateBasketProposal"),
  ("basket", "ProposalBasketWithdrawSurplus", "VotePermission", "PermVoteBasketProposal"),
  ("basket", "ProposalCreateBasket", "ProposalPermission", "PermCreateBasketProposal"),
  ("basket", "ProposalCreateBasket", "VotePermission", "PermVoteBasketProposal"),
  ("basket", "ProposalEditBasket", "ProposalPermission", "PermCreateBasketProposal"),
  ("basket", "ProposalEditBasket", "VotePermission", "PermVoteBasketProposal"),
  ("collectives", "ProposalCollectiveRemove", "ProposalPermission", "PermZero"),
  ("collectives", "ProposalCollectiveRemove", "VotePermission", "PermZero"),
  ("collectives", "ProposalCollectiveSendDonation", "ProposalPermission", "PermZero"),
  ("collectives", "ProposalCollectiveSendDonation", "VotePermission", "PermZero"),
  ("collectives", "ProposalCollectiveUpdate", "ProposalPermission", "PermZero"),
  ("collectives", "ProposalCollectiveUpdate", "VotePermission", "PermZero"),
  ("gov", "AssignRoleToAccountProposal", "ProposalPermission", "PermAssignRoleToAccountProposal"),
  ("gov", "AssignRoleToAccountProposal", "VotePermission", "PermVoteAssignRoleToAccountProposal"),
  ("gov", "BlacklistAccountPermissionProposal", "ProposalPermission", "PermBlacklistAccountPermissionProposal"),
  ("gov", "BlacklistAccountPermissionProposal", "VotePermission", "PermVoteBlacklistAccountPermissionProposal"),
  ("gov", "BlacklistRolePermissionProposal", "ProposalPermission", "PermBlacklistRolePermissionProposal"),
  ("gov", "BlacklistRolePermissionProposal", "VotePermission", "PermVoteBlacklistRolePermissionProposal"),
  ("gov", "CreateRoleProposal", "ProposalPermission", "PermCreateRoleProposal"),
  ("gov", "CreateRoleProposal", "VotePermission", "PermVoteCreateRoleProposal"),
  ("gov", "ProposalJailCouncilor", "ProposalPermission", "PermCreateJailCouncilorProposal"),
  ("gov", "ProposalJailCouncilor", "VotePermission", "PermVoteJailCouncilorProposal"),
  ("gov", "ProposalResetWholeCouncilorRank", "ProposalPermission", "PermCreateResetWholeCouncilorRankProposal"),
  ("gov", "ProposalResetWholeCouncilorRank", "VotePermission", "PermVoteResetWholeCouncilorRankProposal"),
  ("gov", "ProposalSetExecutionFees", "ProposalPermission", "PermCreateSetExecutionFeesProposal"),
  ("gov", "ProposalSetExecutionFees", "VotePermission", "PermVoteSetExecutionFeesProposal"),
  ("gov", "RemoveBlacklistedAccountPermissionProposal", "ProposalPermission", "PermRemoveBlacklistedAccountPermissionProposal"),
  ("gov", "RemoveBlacklistedAccountPermissionProposal", "VotePermission", "PermVoteRemoveBlacklistedAccountPermissionProposal"),
  ("gov", "RemoveBlacklistedRolePermissionProposal", "ProposalPermission", "PermRemoveBlacklistedRolePermissionProposal"),
  ("gov", "RemoveBlacklistedRolePermissionProposal", "VotePermission", "PermVoteRemoveBlacklistedRolePermissionProposal"),
  ("gov", "RemoveRoleProposal", "ProposalPermission", "PermRemoveRoleProposal"),
  ("gov", "RemoveRoleProposal", "VotePermission", "PermVoteRemoveRoleProposal"),
  ("gov", "RemoveWhitelistedAccountPermissionProposal", "ProposalPermission", "PermRemoveWhitelistedAccountPermissionProposal"),
  ("gov", "RemoveWhitelistedAccountPermissionProposal", "VotePermission", "PermVoteRemoveWhitelistedAccountPermissionProposal"),
  ("gov", "RemoveWhitelistedRolePermissionProposal", "ProposalPermission", "PermRemoveWhitelistedRolePermissionProposal"),
  ("gov", "RemoveWhitelistedRolePermissionProposal", "VotePermission", "PermVoteRemoveWhitelistedRolePermissionProposal"),
  ("gov", "SetNetworkPropertyProposal", "ProposalPermission", "PermCreateSetNetworkPropertyProposal"),
  ("gov", "SetNetworkPropertyProposal", "VotePermission", "PermVoteSetNetworkPropertyProposal"),
  ("gov", "SetPoorNetworkMessagesProposal", "ProposalPermission", "PermCreateSetPoorNetworkMessagesProposal"),
  ("gov", "SetPoorNetworkMessagesProposal", "VotePermission", "PermVoteSetPoorNetworkMessagesProposal"),
  ("gov", "SetProposalDurationsProposal", "ProposalPermission", "PermCreateSetProposalDurationProposal"),
  ("gov", "SetProposalDurationsProposal", "VotePermission", "PermVoteSetProposalDurationProposal"),
  ("gov", "UnassignRoleFromAccountProposal", "ProposalPermission", "PermUnassignRoleFromAccountProposal"),
  ("gov", "UnassignRoleFromAccountProposal", "VotePermission", "PermVoteUnassignRoleFromAccountProposal"),
  ("gov", "UpsertDataRegistryProposal", "ProposalPermission", "PermCreateUpsertDataRegistryProposal"),
  ("gov", "UpsertDataRegistryProposal", "VotePermission", "PermVoteUpsertDataRegistryProposal"),
  ("gov", "WhitelistAccountPermissionProposal", "ProposalPermission", "PermWhitelistAccountPermissionProposal"),
  ("gov", "WhitelistAccountPermissionProposal", "VotePermission", "PermVoteWhitelistAccountPermissionProposal"),
  ("gov", "WhitelistRolePermissionProposal", "ProposalPermission", "PermWhitelistRolePermissionProposal"),
  ("gov", "WhitelistRolePermissionProposal", "VotePermission", "PermVoteWhitelistRolePermissionProposal"),
  ("layer2", "ProposalJoinDapp", "ProposalPermission", "PermZero"),
  ("layer2", "ProposalJoinDapp", "VotePermission", "PermZero"),
  ("layer2", "ProposalUpsertDapp", "ProposalPermission", "PermZero"),
  ("layer2", "ProposalUpsertDapp", "VotePermission", "PermZero"),
  ("slashing", "ProposalResetWholeValidatorRank", "ProposalPermission", "PermCreateResetWholeValidatorRankProposal"),
  ("slashing", "ProposalResetWholeValidatorRank", "VotePermission", "PermVoteResetWholeValidatorRankProposal"),
  ("slashing", "ProposalSlashValidator", "ProposalPermission", "PermCreateSlashValidatorProposal"),
  ("slashing", "ProposalSlashValidator", "VotePermission", "PermVoteSlashValidatorProposal"),
  ("spending", "SpendingPoolDistributionProposal", "ProposalPermission", "PermZero"),
  ("spending", "SpendingPoolDistributionProposal", "VotePermission", "PermZero"),
  ("spending", "SpendingPoolWithdrawProposal", "ProposalPermission", "PermZero"),
  ("spending", "SpendingPoolWithdrawProposal", "VotePermission", "PermZero"),
  ("spending", "UpdateSpendingPoolProposal", "ProposalPermission", "PermZero"),
  ("spending", "UpdateSpendingPoolProposal", "VotePermission", "PermZero"),
  ("staking", "ProposalUnjailValidator", "ProposalPermission", "PermCreateUnjailValidatorProposal"),
  ("staking", "ProposalUnjailValidator", "VotePermission", "PermVoteUnjailValidatorProposal"),
  ("tokens", "ProposalTokensWhiteBlackChange", "ProposalPermission", "PermCreateTokensWhiteBlackChangeProposal"),
  ("tokens", "ProposalTokensWhiteBlackChange", "VotePermission", "PermVoteTokensWhiteBlackChangeProposal"),
  ("tokens", "ProposalUpsertTokenInfo", "ProposalPermission", "PermCreateUpsertTokenInfoProposal"),
  ("tokens", "ProposalUpsertTokenInfo", "VotePermission", "PermVoteUpsertTokenInfoProposal"),
  ("ubi", "RemoveUBIProposal", "ProposalPermission", "PermCreateRemoveUBIProposal"),
  ("ubi", "RemoveUBIProposal", "VotePermission", "PermVoteRemoveUBIProposal"),
  ("ubi", "UpsertUBIProposal", "ProposalPermission", "PermCreateUpsertUBIProposal"),
  ("ubi", "UpsertUBIProposal", "VotePermission", "PermVoteUpsertUBIProposal"),
  ("upgrade", "ProposalCancelSoftwareUpgrade", "ProposalPermission", "PermCreateSoftwareUpgradeProposal"),
  ("upgrade", "ProposalCancelSoftwareUpgrade", "VotePermission", "PermVoteSoftwareUpgradeProposal"),
  ("upgrade", "ProposalSoftwareUpgrade", "ProposalPermission", "PermCreateSoftwareUpgradeProposal"),
  ("upgrade", "ProposalSoftwareUpgrade", "VotePermission", "PermVoteSoftwareUpgradeProposal")
]

theorem content_perms_as_expected : Sekai.Gen.Gates.contentPerms = expectedContentPerms := by rfl

/-- a gated handler as the msg servers are written: the permission test dominates the body -/
def gated (s : St) (signer perm : Nat) (body : St → Option St) : Option St :=
  if checkAllowed s signer perm then body s else none

/-- **a gated action succeeds only for an actor that holds the required permission at that moment** -/
theorem gated_only_holders (s s' : St) (signer perm : Nat) (body : St → Option St)
    (h : gated s signer perm body = some s') : Holds s signer perm := by
  unfold gated at h
  cases hc : checkAllowed s signer perm with
  | true => exact (checkAllowed_iff_rule s signer perm).mp hc
  | false => simp [hc] at h

end Sekai.Props.C07
