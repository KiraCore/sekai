import SekaiProofs.Lemmas.IdentWF
import Sekai.Gen.Keys
import SekaiProofs.Lemmas.Keys
/-! # C16 — Identity registry: unique keys stay unique, only owners edit, tips escrowed once

Theorems about `Sekai.Ident` (the executable mirror of `x/gov/keeper/identity_registrar.go` and of the callers that
reach it), for all histories from every genesis (`Genesis S0`, `run S0 ops`) and for all states that satisfy the stated
invariant. `step` is one message under the message-level cache (`apply` = ValidateBasic + keeper).

Status. (c) a verifier appears only by its own approval and (e) the tips hold for every message. (a) unique keys, (b) only
owners edit and (d) an edit drops verifications are FALSE of the code over all reachable states: the `C16_…_full` statements
are refuted by closed witnesses (`MsgSetNetworkProperties` for (a), a rotation for (b) and (d)) and proved with that message
excluded (`…_partial`). After the clauses: the moniker-deletion guard (refuted likewise), genesis export + import, the
genesis tool `gentx-claim`, the key spaces of the gov store.

The rotation clause ("a proven recovery rotation moves them unchanged to the new address") is
`rotation_moves_records_unchanged` below; `REC.records_moved_unchanged` states it again for the copy of the registry
that the recovery model carries. -/
namespace Sekai.Props.C16
open Sekai.Ident

-- for the closed witnesses: `run_sampleOps` and `run_rotationWitness` compare whole states by `decide +kernel`
deriving instance DecidableEq for State

structure Genesis (S : State) : Prop where
  records : S.records = []
  idx : S.idx = []
  reqs : S.reqs = []
  escrow : S.escrow = []

def init : State := {}
/-- a genesis in which accounts 0..3 exist, accounts 1..3 hold funds, account 0 may send `MsgSetNetworkProperties`,
account 1 has registered a recovery secret -/
def init2 : State :=
  { permProps := [0], secrets := [1], accs := [0, 1, 2, 3],
    bal := [(1, 0, 5000000000), (2, 0, 5000000000), (3, 0, 5000000000)] }

theorem genesis_init : Genesis init := ⟨rfl, rfl, rfl, rfl⟩
theorem genesis_init2 : Genesis init2 := ⟨rfl, rfl, rfl, rfl⟩

def Inv (S : State) : Prop := WFcore S ∧ EscInv S ∧ UInv S

theorem UInv_genesis {S : State} (g : Genesis S) : UInv S := by
  constructor
  · intro x hx; rw [g.records] at hx; cases hx
  · intro x hx; rw [g.records] at hx; cases hx

theorem EscInv_genesis {S : State} (g : Genesis S) : EscInv S := by
  refine ⟨⟨by rw [g.reqs]; exact List.Pairwise.nil, ?_⟩, ?_⟩
  · intro x hx; rw [g.reqs] at hx; cases hx
  · intro d; unfold escrowGet; rw [g.escrow, g.reqs]; rfl

theorem inv_genesis {S : State} (g : Genesis S) : Inv S := by
  refine ⟨?_, EscInv_genesis g, UInv_genesis g⟩
  exact {
    idxLive := fun x hx => by rw [g.idx] at hx; cases hx
    recBounded := fun x hx => by rw [g.records] at hx; cases hx
    keysLower := fun x hx => by rw [g.records] at hx; cases hx
    reqLive := fun x hx => by rw [g.reqs] at hx; cases hx
    reqIdx := fun x hx => by rw [g.reqs] at hx; cases hx }

theorem inv_init : Inv init := inv_genesis genesis_init

theorem inv_step {S : State} {o : Op} (h : Inv S) (hr : o.isRotate = false) (hw : o.isSetKeysWhole = false) :
    Inv (step S o) := by
  obtain ⟨wf, esc, uniq⟩ := h
  exact ⟨step_cases wf fun _ ha => (WF_apply hr wf esc.1 ha).1, (step_reqStep S o).inv esc, UInv_step uniq hw⟩

theorem inv_run (ops : List Op) {S : State} (h : Inv S)
    (hr : ∀ o ∈ ops, o.isRotate = false ∧ o.isSetKeysWhole = false) : Inv (run S ops) :=
  List.foldlRecOn ops step h fun _ hS o ho => inv_step hS (hr o ho).1 (hr o ho).2

/-- non-vacuity: a busy reachable state (two owners, approved records, a pending request) -/
def sampleOps : List Op :=
  [.time 100, .register 1 [⟨"Moniker", "alice"⟩, ⟨"contact", "x"⟩], .register 2 [⟨"moniker", "bob"⟩],
   .request 1 2 [1, 2] 0 0, .handle 2 1 true, .request 1 2 [2] 0 0]

/-- the state the sample history leads to, computed once: the examples below look at it -/
def sampleState : State :=
  { records := [⟨2, 1, "contact", "x", 100, [2]⟩, ⟨1, 1, "moniker", "alice", 100, [2]⟩, ⟨3, 2, "moniker", "bob", 100, []⟩],
    idx := [⟨1, "contact", 2⟩, ⟨1, "moniker", 1⟩, ⟨2, "moniker", 3⟩], lastRecordId := 3,
    reqs := [⟨2, 1, 2, [2], 0, 0, 100⟩], byReq := [(1, 2)], byApp := [(2, 2)], lastReqId := 2, now := 100 }
theorem run_sampleOps : run init sampleOps = sampleState := by decide +kernel

example : (run init sampleOps).records.length = 3 ∧ (run init sampleOps).reqs.length = 1 := by
  rw [run_sampleOps]; exact ⟨rfl, rfl⟩
example : Inv (run init sampleOps) := inv_run _ inv_init (by decide)

/-! ## (a) unique keys stay unique -/

/-- one message: uniqueness (and lower-case storage of keys, which is what makes it hold for every spelling of a
key) is preserved by every message except `MsgSetNetworkProperties` — including changes of the unique-key list
through the single-property path, and rotations -/
theorem unique_preserved {S : State} {o : Op} (h : UInv S) (hw : o.isSetKeysWhole = false) : UInv (step S o) :=
  UInv_step h hw

example : UInv (run init sampleOps) ∧ (Op.register 2 [⟨"Username", "zed"⟩]).isSetKeysWhole = false :=
  ⟨(inv_run _ inv_init (by decide)).2.2, rfl⟩

/-- the full statement: in every state reachable from a genesis no two addresses hold the same value under a
unique key -/
def C16_unique_full : Prop := ∀ S0, Genesis S0 → ∀ ops : List Op, Uniq (run S0 ops)

/-- witness of the finding `C16/setkeys-whole/unique-list-extended-without-duplicate-scan`: two addresses register the
same `contact`; `MsgSetNetworkProperties` (signed by account 0, which holds PermChangeTxFee in `init2`) then declares
`contact` unique without the duplicate scan of the single-property path -/
def uniqueWitness : List Op :=
  [.register 1 [⟨"contact", "x"⟩], .register 2 [⟨"contact", "x"⟩], .setKeysWhole 0 "moniker,username,contact"]

theorem unique_full_counterexample : ¬ C16_unique_full := by
  intro h
  have h1 := (uniqB_iff _).mpr (h init2 genesis_init2 uniqueWitness)
  revert h1; decide +kernel

/-- the same history on the single-property path is rejected (the scan is there) -/
example : apply (run init [.register 1 [⟨"contact", "x"⟩], .register 2 [⟨"contact", "x"⟩]])
    (.setKeysSingle "moniker,username,contact") = none := by decide +kernel

/-- (a) for all histories without `MsgSetNetworkProperties`, from every genesis: unique keys are unique, whatever
the spelling -/
theorem unique_partial {S0 : State} (g : Genesis S0) (ops : List Op) (hw : ∀ o ∈ ops, o.isSetKeysWhole = false) :
    Uniq (run S0 ops) ∧ KeysLower (run S0 ops) := by
  have := UInv_run ops (UInv_genesis g) hw
  exact ⟨this.2, this.1⟩

example : Uniq (run init sampleOps) := (unique_partial genesis_init sampleOps (by decide)).1
/-- the mixed-case spelling of the sample history was stored lower-case and collides with `moniker` -/
example : apply (run init sampleOps) (.register 2 [⟨"MONIKER", "alice"⟩]) = none := by
  rw [run_sampleOps]; decide +kernel

/-! ## (b) only owners edit -/

theorem WFr_genesis {S : State} (g : Genesis S) : WFr S := ⟨(inv_genesis g).1, (inv_genesis g).2.1.1⟩

/-- (b), one message from ANY well-formed registry: a message signed by `s` creates, changes or deletes only records
whose address is `s` (`OpFrame`: for every record id the content `(id, address, key, value, date)` is unchanged, or
the record belonged to `s` before — if it existed — and belongs to `s` after — if it exists); messages without a
signer change no record -/
theorem only_owner_edits {S : State} {o : Op} (h : WFr S) (hr : o.isRotate = false) : OpFrame o S (step S o) :=
  step_cases (OpFrame.of_content fun _ => rfl) fun _ ha => (WF_apply hr h.1 h.2 ha).2

/-- the full statement of (b): in every reachable state, every non-rotation message edits only its signer's records -/
def C16_only_owner_full : Prop :=
  ∀ S0, Genesis S0 → ∀ (ops : List Op) (o : Op), o.isRotate = false → OpFrame o (run S0 ops) (step (run S0 ops) o)

/-- witness of the finding `C16/rotation/old-address-keeps-index-entry`: account 1 registers `username`, rotates to the
fresh address 4 (records move to 4, but `DeleteIdentityRecordById` leaves 1's index entry behind); then the OLD address 1
deletes the record owned by 4 -/
def rotationWitness : List Op := [.time 7, .register 1 [⟨"username", "alice"⟩], .rotate 1 1 4 true]

/-- the state after the witness: the record belongs to 4, the index still lists it under 1 as well -/
def rotatedState : State :=
  { init2 with
    records := [⟨1, 4, "username", "alice", 7, []⟩], idx := [⟨4, "username", 1⟩, ⟨1, "username", 1⟩], lastRecordId := 1,
    bal := [(1, 1, 0), (4, 1, 0), (1, 0, 0), (4, 0, 4000000000), (2, 0, 5000000000), (3, 0, 5000000000)],
    rotated := [1], accs := [4, 0, 1, 2, 3], now := 7 }
theorem run_rotationWitness : run init2 rotationWitness = rotatedState := by decide +kernel

theorem only_owner_edits_full_counterexample : ¬ C16_only_owner_full := by
  intro h
  have h1 := h init2 genesis_init2 rotationWitness (.delete 1 ["username"]) rfl
  rw [run_rotationWitness] at h1
  have e1 : getRec rotatedState 1 = some ⟨1, 4, "username", "alice", 7, []⟩ := rfl
  have e2 : getRec (step rotatedState (.delete 1 ["username"])) 1 = none := by decide +kernel
  rcases h1 1 with e | ⟨p, _⟩
  · rw [e1, e2] at e; cases e
  · exact absurd (p _ e1) (by decide)

/-- … and the old address can also overwrite it (the record returns to address 1 with a new value) -/
example : getRec (step (run init2 rotationWitness) (.register 1 [⟨"username", "mallory"⟩])) 1
    = some ⟨1, 1, "username", "mallory", 7, []⟩ := by rw [run_rotationWitness]; decide +kernel

/-- the rotation itself is faithful on the record side ("a proven recovery rotation moves them unchanged to the new
address"): from any state whose stored keys are lower-case (every state reached without `setKeysWhole`,
`unique_partial`), every record listed in the old address's index keeps id, key, value, date and verifier list and only
changes its address to the new one; all other records are untouched. What the rotation gets wrong is the INDEX of the
old address, which survives (`rotationWitness`). -/
theorem rotation_moves_records_unchanged {S S' : State} {p old new : Nat} {ok : Bool} (hk : KeysLower S)
    (ha : apply S (.rotate p old new ok) = some S') :
    (∀ e ∈ S.idx, e.addr = old → ∃ r, getRec S e.id = some r ∧ getRec S' e.id = some { r with addr := new }) ∧
    (∀ id, (∀ e ∈ S.idx, e.addr = old → e.id ≠ id) → getRec S' id = getRec S id) := by
  obtain ⟨hlive, hget⟩ := rotate_getRec ha
  constructor
  · intro e he hea
    have hin : e.id ∈ idsOf S old := mem_idsOf.mpr ⟨e, he, hea, rfl⟩
    obtain ⟨r, hr⟩ := hlive e.id hin
    refine ⟨r, hr, ?_⟩
    rw [hget, if_pos hin, hr, Option.map_some, retarget, hk r (getRec_mem hr).1]
  · intro id hno
    rw [hget, if_neg]
    intro hin
    obtain ⟨e, he, hea, hid⟩ := mem_idsOf.mp hin
    exact hno e he hea hid

/-- non-vacuity + the defect: the witness rotation succeeds, the record moves to 4, the index entry of 1 is still there -/
example : (apply (run init2 [.time 7, .register 1 [⟨"username", "alice"⟩]]) (.rotate 1 1 4 true)).isSome = true ∧
    (run init2 rotationWitness).idx = [⟨4, "username", 1⟩, ⟨1, "username", 1⟩] :=
  ⟨by decide +kernel, by rw [run_rotationWitness]; rfl⟩

/-- (b) for all rotation-free histories from every genesis -/
theorem only_owner_edits_partial {S0 : State} (g : Genesis S0) (ops : List Op) (hr : ∀ o ∈ ops, o.isRotate = false)
    (o : Op) (ho : o.isRotate = false) : OpFrame o (run S0 ops) (step (run S0 ops) o) :=
  only_owner_edits (WFr_run ops (WFr_genesis g) hr) ho

example : WFr (run init sampleOps) := WFr_run _ (WFr_genesis genesis_init) (by decide)
/-- in the sample state account 2 cannot touch account 1's record: its delete selects nothing -/
example : getRec (step (run init sampleOps) (.delete 2 ["contact"])) 2 = getRec (run init sampleOps) 2 := by
  rw [run_sampleOps]; decide +kernel

/-! ## (c) a verifier appears only through its own approval of a covering request -/

/-- for ALL states and ALL messages (rotations and the whole-record path included): if verifier `u` is on record
`id` after the message and was not before, the message is `handle u reqId yes` and request `reqId` was pending, names
`u` as its verifier and covers `id` -/
theorem verifier_only_by_approval {S S' : State} {o : Op} (ha : apply S o = some S') :
    ∀ id r', getRec S' id = some r' → ∀ u ∈ r'.verifiers,
      (∃ r, getRec S id = some r ∧ u ∈ r.verifiers) ∨
      (∃ reqId q, o = .handle u reqId true ∧ getReq S reqId = some q ∧ q.verifier = u ∧ id ∈ q.recordIds) := by
  intro id r' hr' u hu
  have lift : NoGrow S S' → ∃ r, getRec S id = some r ∧ u ∈ r.verifiers := fun n => n id r' hr' u hu
  cases apply_applied ha with
  | register c _ hr => exact Or.inl (lift (registerRecords_resetOnChange (S := { S with councilors := c }) hr).noGrow)
  | delete hd => exact Or.inl ⟨r', deleteRecords_sub hd id r' hr', hu⟩
  | request hr => exact Or.inl (lift (NoGrow.of_recs (requestVerify_recFrame hr).records))
  | handle hh =>
    rcases handleVerify_grow hh id r' hr' u hu with h | ⟨rfl, rfl, q, hq, hv, hid⟩
    · exact Or.inl h
    · exact Or.inr ⟨_, q, rfl, hq, hv, hid⟩
  | cancel hc => exact Or.inl (lift (NoGrow.of_recs (cancelReq_recFrame hc).records))
  | setKeysSingle hs => obtain ⟨_, _, rfl⟩ := setKeysSingle_some hs; exact Or.inl (lift (NoGrow.of_recs rfl))
  | param => exact Or.inl (lift (NoGrow.of_recs rfl))
  | rotate hr => exact Or.inl (lift (rotate_noGrow hr))

/-- non-vacuity: in the sample history the approval put verifier 2 on records 1 and 2 -/
example : (getRec (run init sampleOps) 1).map (·.verifiers) = some [2] := by rw [run_sampleOps]; rfl

/-! ## (d) an edit drops verifications and cancels the pending requests -/

/-- from ANY well-formed registry: whenever a non-rotation message changes the value of a record, the record's verifier
list is empty afterwards and no pending request names it any more -/
theorem edit_drops_verifications {S S' : State} {o : Op} (h : WFr S) (hr : o.isRotate = false)
    (ha : apply S o = some S') :
    ∀ id r r', getRec S id = some r → getRec S' id = some r' → r.value ≠ r'.value →
      r'.verifiers = [] ∧ ∀ q ∈ S'.reqs, id ∉ q.recordIds := by
  intro id r r' h1 h2 hne
  -- a message that keeps every record's content changes no value
  have same : (getRec S' id).map content = (getRec S id).map content → False := by
    intro hc
    rw [h1, h2] at hc
    simp only [Option.map_some, Option.some.injEq, content, Prod.mk.injEq] at hc
    exact hne hc.2.2.2.1.symm
  cases apply_applied ha with
  | register c _ hreg =>
    -- a registration resets the verifier list of what it changes and cancels the requests on it
    have w : WFcore { S with councilors := c } := WFcore_congr h.1 rfl rfl rfl rfl rfl
    refine ⟨?_, (WF_registerRecords w (ReqWF_congr h.2 rfl rfl) hreg).2.2 id r r' h1 h2 hne⟩
    rcases registerRecords_resetOnChange hreg id r' h2 with e | e
    · exact absurd (congrArg Record.value (Option.some.inj (h1.symm.trans e))) hne
    · exact e
  | delete hd => exact absurd (congrArg Record.value (Option.some.inj (h1.symm.trans (deleteRecords_sub hd id r' h2)))) hne
  | request hq => exact (same (by rw [(requestVerify_recFrame hq).getRec])).elim
  | handle hh => exact (same ((WF_handleVerify h.1 hh).2 _)).elim
  | cancel hc => exact (same (by rw [(cancelReq_recFrame hc).getRec])).elim
  | setKeysSingle hs => obtain ⟨_, _, rfl⟩ := setKeysSingle_some hs; exact (same rfl).elim
  | param => exact (same rfl).elim
  | rotate => cases hr

/-- the full statement of (d) over all reachable states -/
def C16_edit_drops_full : Prop :=
  ∀ S0, Genesis S0 → ∀ (ops : List Op) (o : Op) (S' : State), o.isRotate = false → apply (run S0 ops) o = some S' →
    ∀ id r r', getRec (run S0 ops) id = some r → getRec S' id = some r' → r.value ≠ r'.value →
      r'.verifiers = [] ∧ ∀ q ∈ S'.reqs, id ∉ q.recordIds

/-- `C16/rotation/old-address-keeps-index-entry` again: after the rotation the new owner 4 requests a verification of the
moved record; the old address 1 then changes the value — the request of 4 stays pending on the changed record -/
theorem edit_drops_verifications_full_counterexample : ¬ C16_edit_drops_full := by
  intro h
  have h := h init2 genesis_init2 (rotationWitness ++ [.request 4 2 [1] 0 0])
  rw [run_append, run_rotationWitness] at h
  -- one evaluation of the rest of the witness for the four facts
  have ⟨hs, e1, e2, e3⟩ : (apply (run rotatedState [.request 4 2 [1] 0 0]) (.register 1 [⟨"username", "mallory"⟩])).isSome = true ∧
      getRec (run rotatedState [.request 4 2 [1] 0 0]) 1 = some ⟨1, 4, "username", "alice", 7, []⟩ ∧
      getRec (step (run rotatedState [.request 4 2 [1] 0 0]) (.register 1 [⟨"username", "mallory"⟩])) 1
        = some ⟨1, 1, "username", "mallory", 7, []⟩ ∧
      (⟨1, 4, 2, [1], 0, 0, 7⟩ : Request) ∈ (step (run rotatedState [.request 4 2 [1] 0 0]) (.register 1 [⟨"username", "mallory"⟩])).reqs := by
    decide +kernel
  exact (h _ _ rfl (apply_eq_step_of_isSome hs) 1 _ _ e1 e2 (by decide)).2 _ e3 (by decide)

/-- (d) for all rotation-free histories from every genesis -/
theorem edit_drops_verifications_partial {S0 : State} (g : Genesis S0) (ops : List Op)
    (hr : ∀ o ∈ ops, o.isRotate = false) (o : Op) (ho : o.isRotate = false) (S' : State)
    (ha : apply (run S0 ops) o = some S') :
    ∀ id r r', getRec (run S0 ops) id = some r → getRec S' id = some r' → r.value ≠ r'.value →
      r'.verifiers = [] ∧ ∀ q ∈ S'.reqs, id ∉ q.recordIds :=
  edit_drops_verifications (WFr_run ops (WFr_genesis g) hr) ho ha

/-- non-vacuity: in the sample state record 2 (`contact` of account 1) carries verifier 2 and a pending request;
editing it empties both -/
example : (getRec (run init sampleOps) 2).map (·.verifiers) = some [2] ∧ (run init sampleOps).reqs.length = 1 ∧
    (getRec (step (run init sampleOps) (.register 1 [⟨"Contact", "y"⟩])) 2).map (·.verifiers) = some [] ∧
    (step (run init sampleOps) (.register 1 [⟨"Contact", "y"⟩])).reqs.length = 0 := by
  rw [run_sampleOps]; decide +kernel

/-! ## (e) tips: escrowed on request, paid out exactly once -/

/-- for ALL histories from every genesis (rotations and every network-property change included): the gov module
account holds, per denomination, exactly the sum of the tips of the pending requests, and request ids are pairwise
different and bounded by the counter -/
theorem tip_escrow {S0 : State} (g : Genesis S0) (ops : List Op) : EscInv (run S0 ops) :=
  (run_reqStep ops S0).inv (EscInv_genesis g)

theorem tip_escrow_step {S : State} (o : Op) (h : EscInv S) : EscInv (step S o) := (step_reqStep S o).inv h

/-- the invariant implies the driver's oracle bit -/
theorem escrowB_of_inv {S : State} (h : EscInv S) : escrowB S = true := by
  unfold escrowB
  simp only [List.all_cons, List.all_nil, Bool.and_true, Bool.and_eq_true, beq_iff_eq]
  exact ⟨h.2 0, h.2 1⟩

/-- a tip is escrowed when the request is made: the requester pays exactly the tip into escrow and the request
with the next id is pending -/
theorem tip_escrowed_on_request {S S' : State} {a v : Nat} {ids : List Nat} {d n : Nat}
    (ha : apply S (.request a v ids d n) = some S') :
    S'.lastReqId = S.lastReqId + 1 ∧
    (∃ le, getReq S' (S.lastReqId + 1) = some ⟨S.lastReqId + 1, a, v, ids, d, n, le⟩) ∧
    balGet S' a d + n = balGet S a d ∧ escrowGet S' d = escrowGet S d + n := by
  obtain ⟨_, le, _, _, h⟩ := requestVerify_some (ite_none_some ha)
  obtain ⟨⟨b, e, rfl⟩, pb, pe⟩ := takeTip_some h
  refine ⟨rfl, ⟨le, ?_⟩, pb, by rw [pe d, if_pos rfl]; rfl⟩
  show getReq (setReq S _) _ = _
  rw [getReq_setReq, if_pos rfl]

/-- a request with tip 10 from account 1 to verifier 2 -/
def tipOps : List Op := [.register 1 [⟨"moniker", "alice"⟩], .request 1 2 [1] 0 10]

/-- handling (approve OR reject) pays the tip to the verifier, once: the request was pending with this verifier,
exactly its tip moves from escrow to the verifier and no other balance changes, the request is gone — and it stays
gone in every continuation, so every later `handle` / `cancel` of the same id is rejected -/
theorem tip_paid_once_handle {S S' : State} {v id : Nat} {yes : Bool} (hw : ReqWF S)
    (ha : apply S (.handle v id yes) = some S') :
    ∃ q, getReq S id = some q ∧ q.verifier = v ∧
      (∀ a d, balGet S' a d = balGet S a d + (if a = v ∧ d = q.denom then q.amount else 0)) ∧
      (∀ d, escrowGet S' d + tipIn d q = escrowGet S d) ∧
      ∀ ops : List Op, getReq (run S' ops) id = none ∧
        (∀ v' yes', apply (run S' ops) (.handle v' id yes') = none) ∧
        (∀ a', apply (run S' ops) (.cancel a' id) = none) := by
  obtain ⟨q, hv, h⟩ := handleVerify_settled (ite_none_some ha)
  exact ⟨q, h.pending, hv, h.paid_once hw⟩

example : ReqWF (run init2 tipOps) ∧ (apply (run init2 tipOps) (.handle 2 1 true)).isSome = true :=
  ⟨(tip_escrow genesis_init2 _).1, by decide +kernel⟩

/-- cancelling refunds the tip to the requester, once -/
theorem tip_paid_once_cancel {S S' : State} {a id : Nat} (hw : ReqWF S)
    (ha : apply S (.cancel a id) = some S') :
    ∃ q, getReq S id = some q ∧ q.addr = a ∧
      (∀ b d, balGet S' b d = balGet S b d + (if b = a ∧ d = q.denom then q.amount else 0)) ∧
      (∀ d, escrowGet S' d + tipIn d q = escrowGet S d) ∧
      ∀ ops : List Op, getReq (run S' ops) id = none ∧
        (∀ v' yes', apply (run S' ops) (.handle v' id yes') = none) ∧
        (∀ a', apply (run S' ops) (.cancel a' id) = none) := by
  obtain ⟨q, hadr, h⟩ := cancelReq_settled (ite_none_some ha)
  exact ⟨q, h.pending, hadr, h.paid_once hw⟩

/-- non-vacuity: a request with tip 10, handled by its verifier; escrow goes 0 → 10 → 0 and the verifier receives 10 -/
example : escrowGet (run init2 tipOps) 0 = 10 ∧ balGet (run init2 tipOps) 1 0 = 4999999990 ∧
    escrowGet (step (run init2 tipOps) (.handle 2 1 false)) 0 = 0 ∧
    balGet (step (run init2 tipOps) (.handle 2 1 false)) 2 0 = 5000000010 ∧
    apply (step (run init2 tipOps) (.handle 2 1 false)) (.cancel 1 1) = none := by decide +kernel
example : EscInv (run init2 tipOps) := tip_escrow genesis_init2 _

/-! ## the moniker-deletion guard (not part of the C16 statement) -/

/-- the intended guard: `DeleteIdentityRecords` never removes a `moniker` record -/
def C16_moniker_guard_full : Prop :=
  ∀ S0, Genesis S0 → ∀ (ops : List Op) (a : Nat) (keys : List String) (S' : State),
    apply (run S0 ops) (.delete a keys) = some S' →
    ∀ id r, getRec (run S0 ops) id = some r → r.key = "moniker" → getRec S' id = some r

/-- the guard compares the key as spelled by the caller: `Moniker` passes it and is then lower-cased -/
theorem moniker_guard_counterexample : ¬ C16_moniker_guard_full := by
  intro h
  have ⟨hs, e1, e2⟩ : (apply (run init [.register 1 [⟨"moniker", "alice"⟩]]) (.delete 1 ["Moniker"])).isSome = true ∧
      getRec (run init [.register 1 [⟨"moniker", "alice"⟩]]) 1 = some ⟨1, 1, "moniker", "alice", 0, []⟩ ∧
      getRec (step (run init [.register 1 [⟨"moniker", "alice"⟩]]) (.delete 1 ["Moniker"])) 1 = none := by decide +kernel
  have := h init genesis_init _ 1 ["Moniker"] _ (apply_eq_step_of_isSome hs) 1 _ e1 rfl
  rw [e2] at this; cases this

/-- … and an empty key list deletes every record of the address, the moniker included -/
example : getRec (step (run init [.register 1 [⟨"moniker", "alice"⟩]]) (.delete 1 [])) 1 = none := by decide +kernel

/-- the guard works for callers that name at least one key and spell `moniker` in lower case whenever they mean it -/
theorem moniker_guard_partial {S S' : State} {a : Nat} {keys : List String} (h : WFr S)
    (hne : keys.isEmpty = false) (hsp : ∀ k ∈ keys, lower k = "moniker" → k = "moniker")
    (ha : apply S (.delete a keys) = some S') :
    ∀ id r, getRec S id = some r → r.key = "moniker" → getRec S' id = some r := by
  intro id r hr hk
  have hd : deleteRecords S a keys = some S' := ha
  obtain ⟨_, _, gone⟩ := WF_deleteRecords h.1 h.2 hd
  cases hS' : getRec S' id with
  | some r' =>
    have := deleteRecords_sub hd id r' hS'
    rw [hr] at this; cases this; rfl
  | none =>
    exfalso
    rcases gone id r hr hS' with h1 | h1
    · rw [hne] at h1; cases h1
    · rw [hk] at h1
      obtain ⟨k, hkin, hkl⟩ := List.mem_map.mp h1
      -- the guard rejects the literal key "moniker"
      have hguard := (deleteRecords_some hd).1
      rw [List.any_eq_false] at hguard
      exact hguard k hkin (by simp [hsp k hkin hkl])

example : apply (run init [.register 1 [⟨"moniker", "alice"⟩]]) (.delete 1 ["moniker"]) = none := by decide +kernel

/-! ## genesis export + import (`Ident.reimport`) -/

/-- the fields an import does not touch -/
def SameBooks (S S' : State) : Prop :=
  S'.lastRecordId = S.lastRecordId ∧ S'.lastReqId = S.lastReqId ∧ S'.bal = S.bal ∧ S'.escrow = S.escrow ∧
  S'.uniqueKeys = S.uniqueKeys ∧ S'.minTip = S.minTip

/-- **export + import keeps the books**: the two id counters (so that ids handed out afterwards are fresh), every
balance, the escrow of the gov module account, the unique-key list and the minimum tip are what they were. -/
theorem reimport_keeps_counters_and_money {S S' : State} (h : reimport S = some S') : SameBooks S S' := by
  obtain ⟨_, _, _, _, _, rfl⟩ := reimport_some h
  exact ⟨rfl, rfl, rfl, rfl, rfl, rfl⟩

def exampleState : State :=
  { records := [⟨2, 1, "moniker", "bob", 5, []⟩, ⟨1, 0, "moniker", "alice", 3, [7]⟩],
    idx := [⟨1, "moniker", 2⟩, ⟨0, "moniker", 1⟩, ⟨0, "deleted", 9⟩], lastRecordId := 9,
    reqs := [⟨4, 0, 7, [1], 0, 100, 3⟩], byReq := [(0, 4)], byApp := [(7, 4)], lastReqId := 4 }

/-- non-vacuity: a registry with two records (ids out of order in the store list), a stale index entry and a pending
request is imported; the stale index entry is gone, everything else is back -/
example :
    (reimport exampleState).map (fun S' => S'.records.map (·.id)) = some [2, 1] ∧
    (reimport exampleState).map (fun S' => S'.idx.length) = some 2 ∧
    (reimport exampleState).map (fun S' => (S'.lastRecordId, S'.lastReqId)) = some (9, 4) ∧
    (reimport exampleState).map (fun S' => S'.byReq) = some [(0, 4)] := by decide +kernel

/-! ## the genesis tool `gentx-claim` -/

/-- **`gentx-claim` hands the chain a state the identity theorems start from**: if no record id of the input file exceeds
its counter, the same holds for the output, and the id given to the validator's moniker record was nobody's -/
theorem gentxClaim_keeps_recBounded (S : State) (addr : Nat) (m : String) (d : Nat) (h : RecBounded S) :
    RecBounded (gentxClaim S addr m d) ∧ ∀ r ∈ S.records, r.id ≠ S.lastRecordId + 1 := by
  refine ⟨?_, ?_⟩
  · intro r hr
    simp only [gentxClaim, List.mem_append, List.mem_singleton] at hr ⊢
    rcases hr with hr | rfl
    · exact Nat.le_succ_of_le (h r hr)
    · exact Nat.le_refl _
  · intro r hr he
    have := h r hr
    omega

/-- a file with a gap (only id 2 left, counter 2): moniker record 3, counter 3 - recomputing the counter from the NUMBER of
records (2) would hand the next registration the id 3 again -/
example : (gentxClaim { records := [⟨2, 9, "username", "a", 0, []⟩], lastRecordId := 2 } 7 "v" 0).lastRecordId = 3 ∧
    ((gentxClaim { records := [⟨2, 9, "username", "a", 0, []⟩], lastRecordId := 2 } 7 "v" 0).records.map (·.id)) = [2, 3] := by decide

/-! ### Key spaces (table `Gen.Keys`) -/

theorem gov_key_spaces_disjoint : Sekai.Keys.disjoint Sekai.Gen.Keys.stores "gov" = true :=
  Sekai.Keys.disjoint_of_pairwise_apart (by decide +kernel)

end Sekai.Props.C16
