import SekaiProofs.Lemmas.Ante
import Sekai.Gen.App
import Sekai.Model.App
import Sekai.Gen.Ambient
/-! # C14 — Frozen tokens cannot move and a weak network accepts only allowed messages

Theorems about `Sekai.Ante` (`TokensWhiteBlack.IsFrozen`, `ValidateFeeRangeDecorator`'s freeze test on fee
coins, `BlackWhiteTokensCheckDecorator`, `PoorNetworkManagementDecorator`, which inspects every message), for ALL
configurations and transactions; the edits of the freeze lists; obligations on the generated tables. Tie to /repo:
`harness/c14.go` (signed transactions through the real ante chain, every transfer-capable message type in every position).

FALSE of the code: "no accepted transaction moves a frozen token" — only bank `MsgSend` is inspected
(`frozen_not_transferred_counterexample`; what holds is `frozen_not_transferred_partial`); and a `MinValidators ≥ 2^63`
switches the poor-network filter off (`networkActive_wraparound_counterexample`). -/
namespace Sekai.Props.C14
open Sekai Sekai.Ante Sekai.Lemmas.Ante

/-- **The native token is never frozen**, whatever the lists and switches say. -/
theorem native_never_frozen (black white : List String) (native : String) (blOn wlOn : Bool) :
    isFrozen black white native native blOn wlOn = false := by
  simp [isFrozen]

example : isFrozen ["ukex"] [] "ukex" "ukex" true true = false := by decide

/-- **`IsFrozen` exactly as coded**: a non-native denomination is frozen iff it is blacklisted while the
blacklist is on, or absent from the whitelist while whitelisting is on. -/
theorem isFrozen_spec (black white : List String) (d native : String) (blOn wlOn : Bool) :
    isFrozen black white d native blOn wlOn = true ↔
      d ≠ native ∧ ((blOn = true ∧ d ∈ black) ∨ (wlOn = true ∧ d ∉ white)) := by
  fun_cases isFrozen black white d native blOn wlOn <;> simp_all

example : isFrozen ["frozen"] ["ukex"] "frozen" "ukex" true false = true := by decide
example : isFrozen ["frozen"] ["ukex"] "frozen" "ukex" false false = false := by decide
example : isFrozen [] ["ukex"] "ubtc" "ukex" false true = true := by decide

/-- **No accepted transaction pays its fee in a frozen token.** -/
theorem fee_not_frozen (c : Cfg) (tx : Tx) (s s' : State) (h : ante c tx s = .ok s') :
    ∀ x ∈ tx.fee, frozen c x.1 = false := by
  intro x hx
  obtain ⟨_, _, _, hfr, _⟩ := ((validateFee_eq_ok c tx).mp (ante_ok h).fee).1 x hx
  exact hfr

/-- non-vacuity: the default configuration accepts a fee in the native token and rejects one in the blacklisted token -/
example : validateFee { tokens := [⟨"ukex", Dec.one, true⟩, ⟨"frozen", Dec.one, true⟩], black := ["frozen"] } ⟨[], [("ukex", 100)], 1⟩ = .ok () ∧
    validateFee { tokens := [⟨"ukex", Dec.one, true⟩, ⟨"frozen", Dec.one, true⟩], black := ["frozen"] } ⟨[], [("frozen", 100)], 1⟩ = .error .feeFrozen := by
  decide

def Allowed (c : Cfg) (m : Msg) : Prop := m.msgType ∈ c.poorMsgs

/-- the filter's decision, exactly: a bank send must be a small native send (even if `send` is on the list),
any other message must be on the list -/
theorem poor_network_iff (c : Cfg) (msgs : List Msg) (hna : networkActive c = false) :
    poorNetwork c msgs = .ok () ↔ ∀ m ∈ msgs, PoorOk c m := by
  rw [poorNetwork, hna, if_neg nofun, poorLoop_eq_ok]

/-- **While the network is not active, a transaction is accepted only if every one of its messages is on
the allowed list or is a native-token bank send within the configured limit** — every message, any list
length (induction over the message list in `poorLoop_eq_ok`). -/
theorem poor_network (c : Cfg) (tx : Tx) (s s' : State) (hna : networkActive c = false) (h : ante c tx s = .ok s') :
    ∀ m ∈ tx.msgs, Allowed c m ∨ SmallNativeSend c m := by
  intro m hm
  have := (poor_network_iff c tx.msgs hna).mp (ante_ok h).poor m hm
  unfold PoorOk at this
  split at this
  · exact .inr this                                     -- type "send"
  · exact .inl this                                     -- any other type

/-- `IsNetworkActive` means "at least the configured minimum of validators" as long as the minimum fits `int` -/
theorem networkActive_spec (c : Cfg) (h : c.minValidators < two63) :
    networkActive c = true ↔ c.minValidators ≤ c.nVal := by
  unfold networkActive
  rw [toI64_of_lt h]
  simp only [decide_eq_true_eq]
  omega

example : ({ minValidators := 3, nVal := 2 } : Cfg).minValidators < two63 ∧ networkActive { minValidators := 3, nVal := 2 } = false ∧
    networkActive { minValidators := 3, nVal := 3 } = true := by decide

/-- **Wrap-around corner**: `MinValidators ≥ 2^63` (accepted by `ValidateNetworkProperties`) is read as a
negative `int`, so a network with fewer validators than the minimum counts as active and the filter is off.
Replayed on the real code by `harness/c14.go` (finding `C14/is-network-active/int-cast-wraparound`). -/
theorem networkActive_wraparound_counterexample :
    ∃ c : Cfg, c.nVal < c.minValidators ∧ networkActive c = true :=
  ⟨{ minValidators := two63, nVal := 1 }, by decide, by decide⟩

def cfgPoor : Cfg := { minValidators := 3, nVal := 2, poorMsgs := ["submit_proposal", "vote_proposal"], poorMaxSend := 1000,
                       tokens := [⟨"ukex", Dec.one, true⟩], black := ["frozen"] }
def sRich : State := { bal := fun a d => if a = .user 1 ∧ d = "ukex" then 100000 else 0 }
def accepted (c : Cfg) (tx : Tx) (s : State) : Bool := match ante c tx s with | .ok _ => true | .error _ => false
/-- non-vacuity: restricted mode, an accepted transaction with an allowed message and a small native send;
a big send in SECOND position is rejected -/
example : networkActive cfgPoor = false ∧
    accepted cfgPoor ⟨[⟨"vote_proposal", .other, 1⟩, ⟨"send", .send [("ukex", 1000)] 2, 1⟩], [("ukex", 100)], 1⟩ sRich = true ∧
    accepted cfgPoor ⟨[⟨"send", .send [("ukex", 5)] 2, 1⟩, ⟨"send", .send [("ukex", 1001)] 2, 1⟩], [("ukex", 100)], 1⟩ sRich = false ∧
    accepted cfgPoor ⟨[⟨"send", .send [("ukex", 5)] 2, 1⟩, ⟨"multisend", .multisend [("ukex", 5)] 2, 1⟩], [("ukex", 100)], 1⟩ sRich = false := by
  decide

/-- FULL statement of the property: no accepted transaction contains a message that moves a frozen
denomination to another account. -/
def frozen_not_transferred_full : Prop :=
  ∀ (c : Cfg) (tx : Tx) (s s' : State), ante c tx s = .ok s' →
    ∀ m ∈ tx.msgs, ∀ x ∈ movedCoins m, frozen c x.1 = false

/-- default genesis: blacklist on, `frozen` blacklisted -/
def cfgDef : Cfg := { tokens := [⟨"ukex", Dec.one, true⟩, ⟨"frozen", Dec.one / 10, true⟩], black := ["frozen"], white := ["ukex"] }
def txMulti : Tx := ⟨[⟨"multisend", .multisend [("frozen", 1000)] 2, 1⟩], [("ukex", 100)], 1⟩

/-- **The full statement is FALSE on the current tree**: `BlackWhiteTokensCheckDecorator` inspects only bank
`MsgSend`; a `MsgMultiSend` (or custody `MsgSend`, …) moving the blacklisted token is accepted. Witness
replayed on the real code by `harness/c14.go` (findings `C14/multisend/frozen-token-moves`,
`C14/custody-send/frozen-token-moves`). -/
theorem frozen_not_transferred_counterexample : ¬ frozen_not_transferred_full := by
  intro hfull
  have hacc : accepted cfgDef txMulti sRich = true := by decide +kernel
  unfold accepted at hacc
  split at hacc
  · rename_i s' hs'
    have := hfull cfgDef txMulti sRich s' hs' _ (List.mem_cons_self ..) ("frozen", 1000) (by simp [movedCoins])
    revert this; decide
  · cases hacc

/-- **What holds: bank `MsgSend`.** Excluded inputs, as an explicit decidable hypothesis: messages
whose type is not `"send"` (everything `BlackWhiteTokensCheckDecorator` does not inspect). For every accepted
transaction, every bank send in ANY position moves no frozen denomination. -/
theorem frozen_not_transferred_partial (c : Cfg) (tx : Tx) (s s' : State) (h : ante c tx s = .ok s') :
    ∀ m ∈ tx.msgs, m.msgType = "send" → ∀ x ∈ movedCoins m, frozen c x.1 = false := by
  intro m hm hty x hx
  obtain ⟨cs, to, hk, hall⟩ := bwLoop_ok (ante_ok h).filter m hm hty
  simp only [movedCoins, hk] at hx
  exact hall x hx

/-- non-vacuity of `_partial`: a bank send of a free token is accepted, of the frozen one rejected -/
example : accepted cfgDef ⟨[⟨"send", .send [("ukex", 7)] 2, 1⟩], [("ukex", 100)], 1⟩ sRich = true ∧
    accepted cfgDef ⟨[⟨"send", .send [("ukex", 7)] 2, 1⟩, ⟨"send", .send [("frozen", 7)] 2, 1⟩], [("ukex", 100)], 1⟩ sRich = false := by
  decide

/-! ### Edits of the freeze lists (enacted `ProposalTokensWhiteBlackChange`; x/tokens/keeper/utils.go, freeze.go)

`addTokens` / `removeTokens` follow the Go loops (append when absent; overwrite the first occurrence with the last
element and cut the last slot). On duplicate-free lists an edit changes membership exactly as requested
(`list_edit_exact`), and both edits keep the lists duplicate-free (`lists_nodup_preserved`). -/

def ListsNodup (c : Cfg) : Prop := c.black.Nodup ∧ c.white.Nodup

theorem lists_nodup_preserved (c : Cfg) (isBlack isAdd : Bool) (toks : List String) (h : ListsNodup c) :
    ListsNodup (editLists c isBlack isAdd toks) := by
  obtain ⟨hb, hw⟩ := h
  cases isBlack <;> cases isAdd <;> simp only [editLists, ListsNodup]
  · exact ⟨hb, (removeTokens_spec _ _ hw).1⟩
  · exact ⟨hb, (addTokens_spec _ _).2 hw⟩
  · exact ⟨(removeTokens_spec _ _ hb).1, hw⟩
  · exact ⟨(addTokens_spec _ _).2 hb, hw⟩

/-- **a list edit changes membership exactly as requested**: after an edit a token is on the edited list iff it was
there or was added, resp. iff it was there and was not removed; the other list is untouched. -/
theorem list_edit_exact (c : Cfg) (isBlack isAdd : Bool) (toks : List String) (x : String) (h : ListsNodup c) :
    let c' := editLists c isBlack isAdd toks
    (x ∈ c'.black ↔ if isBlack then (if isAdd then x ∈ c.black ∨ x ∈ toks else x ∈ c.black ∧ x ∉ toks) else x ∈ c.black) ∧
    (x ∈ c'.white ↔ if isBlack then x ∈ c.white else (if isAdd then x ∈ c.white ∨ x ∈ toks else x ∈ c.white ∧ x ∉ toks)) := by
  obtain ⟨hb, hw⟩ := h
  cases isBlack <;> cases isAdd <;> simp only [editLists, Bool.false_eq_true, if_false, if_true, iff_self, true_and, and_true]
  · exact (removeTokens_spec _ _ hw).2 x
  · exact (addTokens_spec _ _).1 x
  · exact (removeTokens_spec _ _ hb).2 x
  · exact (addTokens_spec _ _).1 x

/-- a blacklisted token that a removal does not name stays frozen, whatever else the removal lists (repeats included) -/
theorem unrelated_removal_keeps_frozen (c : Cfg) (toks : List String) (d : String) (h : ListsNodup c)
    (hon : c.blacklistOn = true) (hd : d ∈ c.black) (hn : d ≠ c.native) (hnot : d ∉ toks) :
    frozen (editLists c true false toks) d = true := by
  have hm : d ∈ (editLists c true false toks).black := ((list_edit_exact c true false toks d h).1).mpr ⟨hd, hnot⟩
  unfold frozen
  rw [isFrozen_spec]
  exact ⟨by simpa [editLists] using hn, Or.inl ⟨by simpa [editLists] using hon, hm⟩⟩

example : removeTokens ["frozen", "a", "b", "c"] ["a", "a"] = ["frozen", "c", "b"] := by decide
example : ListsNodup { black := ["frozen", "a", "b", "c"] } := by simp [ListsNodup]
/-- the hypothesis is needed: on a list that holds a token twice (reachable only through a genesis file that lists it
twice) one removal leaves the token on the list -/
theorem remove_with_duplicates_counterexample : removeTokens ["a", "a"] ["a"] = ["a"] := by decide

/-- the filters read the freeze lists, the switches and the allowed-message list from the store at the moment a
transaction is checked: nothing outside the store (a cache filled by an earlier, possibly discarded write) can answer
for them. `Gen.Ambient.processState`: see `C01.no_state_outside_the_store`. -/
theorem filters_read_the_store_only : Sekai.Gen.Ambient.processState =
    [("x/upgrade/keeper/keeper.go", "Keeper", "upgradeHandlers", "map[string]types.UpgradeHandler")] := by rfl

/-- both filters of this property are in the ante chain exactly once, after the fee-range check (which rejects frozen
fee tokens) and before signature verification (so they see every transaction that can be delivered) -/
theorem ante_filter_wiring :
    Sekai.App.inOrder Sekai.Gen.App.anteChain
      ["NewValidateFeeRangeDecorator", "NewPoorNetworkManagementDecorator", "NewBlackWhiteTokensCheckDecorator",
       "NewSigVerificationDecorator"] = true := by decide +kernel

end Sekai.Props.C14
