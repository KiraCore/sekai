import Sekai.Gen.BankFlows
import SekaiProofs.Lemmas.Bank
import SekaiProofs.Lemmas.Fold
import SekaiProofs.Props.C10
import SekaiProofs.Props.C18
/-! # C03 — No account is debited without its own authorisation

* bank level: over every sequence of bank operations an account that pays none of them never loses coins (`debits_only_payers`, with
  two corollaries for signers / module accounts); two handler theorems of the module slices restated (undelegations: C10, spending
  pools: C18).
* `account_payers_as_reviewed`: the call sites where an ACCOUNT (not a module) pays, with the expression naming the
  payer, regenerated from the source: each was read — the payer is the message signer (`sender`, `delegator`, `addr`,
  `address`, `feePayer`, `from` = msg.FromAddress), a module-derived address (`collectiveAddr`, `collectiveDonationAddr`),
  the parameter of a wrapper that no call site in the source uses (`senderAddr`, feeprocessing keeper) or an account
  other than the signer: the owner of a custody transfer (`from` of a stored pool entry, released by approvals; the same
  account pays the approving custodian's reward: `FromAddress` of `sendReward`, bound to `msg.TargetAddress` by both
  callers) and the rotated address (`addr` in RotateRecoveryAddress, authorised by its recovery secret) - the two
  recorded exceptions. A new account-paying call site, or a changed payer expression, re-opens this obligation.
* That identity records change only for their signer is C16's subject: it holds of one step that is no rotation
  (`only_owner_edits`) and of rotation-free histories, and is refuted in general (`only_owner_edits_full_counterexample`). The
  custody approval by a non-custodian, the settings rewrite through TargetAddress and the EIP-712 / amino type confusions
  are the other recorded counterexamples (C17, C02 findings).
* dynamic tie: adversarial transactions (a stranger naming another account's record, id or owner field) and mixed
  block histories on the real application; after every transaction every non-signer's coins and recorded claims are
  compared with their values before. -/
namespace Sekai.Props.C03
open Sekai.Bank

/-- **an account that pays none of the operations never loses coins**, for every sequence of bank operations -/
theorem debits_only_payers (b : B) (ops : List Op) (a d : Nat) (hp : ∀ op ∈ ops, op.payer ≠ some a) :
    b.bal a d ≤ (ops.foldl apply b).bal a d :=
  Fold.getD_inv (I := fun b' => b.bal a d ≤ b'.bal a d) ops
    (fun op hop _ _ hI hs => Int.le_trans hI (step_debits_only_payer hs a d (hp op hop))) (Int.le_refl _)

/-- **a transaction whose coin movements are all paid by its signers or by module accounts debits no other account** -/
theorem non_signers_keep_coins (b : B) (ops : List Op) (signers modules : List Nat)
    (hpay : ∀ op ∈ ops, ∀ p, op.payer = some p → p ∈ signers ∨ p ∈ modules)
    (a d : Nat) (ha : a ∉ signers) (hm : a ∉ modules) :
    b.bal a d ≤ (ops.foldl apply b).bal a d := by
  apply debits_only_payers
  intro op hop heq
  rcases hpay op hop a heq with h | h
  · exact ha h
  · exact hm h

/-- begin- and end-of-block processing pays out of module accounts only: users never lose coins -/
theorem block_processing_never_debits_users (b : B) (ops : List Op) (modules : List Nat)
    (hpay : ∀ op ∈ ops, ∀ p, op.payer = some p → p ∈ modules) (a d : Nat) (hm : a ∉ modules) :
    b.bal a d ≤ (ops.foldl apply b).bal a d :=
  non_signers_keep_coins b ops [] modules (fun op hop p hp => Or.inr (hpay op hop p hp)) a d (by simp) hm

example : ([Op.send 0 9 0 5, .send 9 2 0 3].foldl apply { bal := fun a _ => if a = 0 then 10 else if a = 1 then 7 else 0 }).bal 1 0 = 7 := by decide

/-- a matured undelegation is paid only to the account that undelegated, exactly once (multistaking, restated) -/
theorem undelegation_paid_only_to_owner {s s' : Sekai.MultiStake.St} {who id : Nat} (h : Sekai.MultiStake.claimUndel s who id = some s') :
    ∃ u : Sekai.MultiStake.Undel, s.undels.find? (fun u => u.id == id) = some u ∧ u.owner = who ∧ u.expiry ≤ s.now ∧
      (∀ who' : Nat, Sekai.MultiStake.claimUndel s' who' id = none) := by
  obtain ⟨u, h1, h2, h3, _, _, _, h7⟩ := Sekai.Props.C10.claim_after_period_once_by_owner h
  exact ⟨u, h1, h2, h3, h7⟩

/-- a spending pool pays nobody who is not a registered beneficiary (restated) -/
theorem spending_pool_pays_only_beneficiaries (s : Sekai.Spend.State) (n : Nat) (a : Sekai.Spend.Addr) (now : Nat)
    (h : (∀ p, Sekai.Spend.findPool s.pools n = some p → ¬ Sekai.Props.C18.Listed p s.actors a) ∨ Sekai.Spend.findInfo s.infos n a = none) :
    Sekai.Props.C18.commit s (Sekai.Spend.claim s n a now) = s :=
  (Sekai.Props.C18.non_beneficiary_claim_fails s n a now h).2

def expectedAccountPayers : List (String × String × String × String) := [
  ("x/basket/keeper/mint_burn_swap.go", "Keeper.BasketSwap", "k.bk.SendCoinsFromAccountToModule", "sender"),
  ("x/basket/keeper/mint_burn_swap.go", "Keeper.BurnBasketToken", "k.bk.SendCoinsFromAccountToModule", "sender"),
  ("x/basket/keeper/mint_burn_swap.go", "Keeper.MintBasketToken", "k.bk.SendCoinsFromAccountToModule", "sender"),
  ("x/collectives/keeper/abci.go", "Keeper.DistributeCollectiveRewards", "k.bk.SendCoinsFromAccountToModule", "delegator"),
  ("x/collectives/keeper/collective.go", "Keeper.WithdrawCollective", "k.bk.SendCoins", "collectiveAddr"),
  ("x/collectives/keeper/collective.go", "Keeper.WithdrawCollective", "k.bk.SendCoins", "collectiveDonationAddr"),
  ("x/collectives/keeper/msg_server.go", "msgServer.ContributeCollective", "k.keeper.bk.SendCoins", "sender"),
  ("x/collectives/keeper/msg_server.go", "msgServer.ContributeCollective", "k.keeper.bk.SendCoins", "collectiveAddr"),
  ("x/collectives/keeper/msg_server.go", "msgServer.CreateCollective", "k.keeper.bk.SendCoins", "sender"),
  ("x/collectives/keeper/msg_server.go", "msgServer.DonateCollective", "k.keeper.bk.SendCoins", "collectiveDonationAddr"),
  ("x/collectives/keeper/msg_server.go", "msgServer.DonateCollective", "k.keeper.bk.SendCoins", "collectiveAddr"),
  ("x/custody/keeper/msg_server.go", "msgServer.ApproveTransaction", "s.bk.SendCoins", "from"),
  ("x/custody/keeper/msg_server.go", "msgServer.PasswordConfirm", "s.bk.SendCoins", "from"),
  ("x/custody/keeper/msg_server.go", "msgServer.Send", "s.bk.SendCoins", "from"),
  ("x/custody/keeper/msg_server.go", "msgServer.sendReward", "s.bk.SendCoins", "FromAddress"),
  ("x/ethereum/keeper/msg_server.go", "msgServer.Relay", "m.bk.SendCoins", "from"),
  ("x/feeprocessing/keeper/keeper.go", "Keeper.SendCoinsFromAccountToModule", "k.bk.SendCoinsFromAccountToModule", "senderAddr"),
  ("x/gov/keeper/identity_registrar.go", "Keeper.RequestIdentityRecordsVerify", "k.bk.SendCoinsFromAccountToModule", "address"),
  ("x/layer2/keeper/lp_swap_redeem_convert.go", "Keeper.RedeemDappPoolTx", "k.bk.SendCoinsFromAccountToModule", "addr"),
  ("x/layer2/keeper/lp_swap_redeem_convert.go", "Keeper.SwapDappPoolTx", "k.bk.SendCoinsFromAccountToModule", "addr"),
  ("x/layer2/keeper/msg_server.go", "msgServer.BondDappProposal", "k.keeper.bk.SendCoinsFromAccountToModule", "addr"),
  ("x/layer2/keeper/msg_server.go", "msgServer.CreateDappProposal", "k.keeper.bk.SendCoinsFromAccountToModule", "addr"),
  ("x/layer2/keeper/msg_server.go", "msgServer.JoinDappVerifierWithBond", "k.keeper.bk.SendCoinsFromAccountToModule", "addr"),
  ("x/layer2/keeper/msg_server.go", "msgServer.MintBurnTx", "k.keeper.bk.SendCoinsFromAccountToModule", "sender"),
  ("x/layer2/keeper/msg_server.go", "msgServer.MintCreateFtTx", "k.keeper.bk.SendCoinsFromAccountToModule", "sender"),
  ("x/layer2/keeper/msg_server.go", "msgServer.MintCreateNftTx", "k.keeper.bk.SendCoinsFromAccountToModule", "sender"),
  ("x/layer2/keeper/msg_server.go", "msgServer.MintIssueTx", "k.keeper.bk.SendCoinsFromAccountToModule", "sender"),
  ("x/layer2/keeper/msg_server.go", "msgServer.MintIssueTx", "k.keeper.bk.SendCoins", "sender"),
  ("x/layer2/keeper/msg_server.go", "msgServer.TransferDappTx", "k.keeper.bk.SendCoinsFromAccountToModule", "sender"),
  ("x/multistaking/keeper/delegation.go", "Keeper.Delegate", "k.bankKeeper.SendCoinsFromAccountToModule", "delegator"),
  ("x/multistaking/keeper/delegation.go", "Keeper.Undelegate", "k.bankKeeper.SendCoinsFromAccountToModule", "delegator"),
  ("x/recovery/keeper/msg_server.go", "msgServer.BurnRecoveryTokens", "k.bk.SendCoinsFromAccountToModule", "addr"),
  ("x/recovery/keeper/msg_server.go", "msgServer.IssueRecoveryTokens", "k.bk.SendCoinsFromAccountToModule", "addr"),
  ("x/recovery/keeper/msg_server.go", "msgServer.RotateRecoveryAddress", "k.bk.SendCoinsFromAccountToModule", "feePayer"),
  ("x/recovery/keeper/msg_server.go", "msgServer.RotateRecoveryAddress", "k.bk.SendCoins", "addr"),
  ("x/spending/keeper/msg_server.go", "msgServer.DepositSpendingPool", "k.bk.SendCoinsFromAccountToModule", "sender"),
  ("x/spending/keeper/spending_pool.go", "Keeper.DepositSpendingPoolFromAccount", "k.bk.SendCoinsFromAccountToModule", "addr"),
  ("x/tokens/keeper/msg_server.go", "msgServer.EthereumTx", "k.keeper.bankKeeper.SendCoins", "sender")
]

theorem account_payers_as_reviewed : Sekai.Gen.BankFlows.accountPayers = expectedAccountPayers := by rfl

end Sekai.Props.C03
