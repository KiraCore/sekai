import Sekai.Gen.BankFlows
import Sekai.Gen.App
import Sekai.Gen.Keys
import SekaiProofs.Lemmas.Mint
import SekaiProofs.Lemmas.Ubi
import SekaiProofs.Lemmas.Chars
import SekaiProofs.Lemmas.Keys
/-! # C13 — Monetary policy bounds: inflation, UBI and supply caps

Block inflation, the UBI hard cap and schedule, the token registry's caps, the mint / burn call sites. Over a chain of blocks: the stored
supply snapshots that inflation is measured against are those of real block ends (`SnapReal`), and the UBI loop asks the annual gate
record by record (section `UbiGate`, on `Ubi.endLoop`). The UBI hard cap in real uint64 arithmetic is FALSE as coded
(`ubi_hardcap_counterexample`, wrap-around) and exact without wrap-around (`ubi_hardcap_partial`). -/
namespace Sekai.Props.C13
open Sekai Sekai.Mint

/-- **inflation never lifts supply above the period snapshot grown pro rata at the configured inflation rate** -/
theorem inflation_bound (ySnapAmt ySnapTime pSnapAmt pSnapTime supply now : Int) (maxAnnual rate : Dec.D) (period : Int)
    (hs : 0 ≤ pSnapAmt) (hr : 0 ≤ rate) (ht : pSnapTime ≤ now) (hp : 0 < period) :
    supply + inflationMint ySnapAmt ySnapTime pSnapAmt pSnapTime supply now maxAnnual rate period ≤
      max supply (pSnapAmt + (pSnapAmt * rate * (now - pSnapTime)) / (period * Dec.P) + 1) := by
  rw [inflationMint_eq]
  split
  · rw [Int.add_comm, Int.sub_add_cancel]      -- minted: what is missing to the target
    exact Int.le_trans (targetSupply_le hs hr ht hp) (Int.le_max_right ..)
  · rw [Int.add_zero]; exact Int.le_max_left ..

/-- **inflation never burns**: the minted amount is never negative -/
theorem inflationMint_nonneg (ySnapAmt ySnapTime pSnapAmt pSnapTime supply now : Int) (maxAnnual rate : Dec.D) (period : Int) :
    0 ≤ inflationMint ySnapAmt ySnapTime pSnapAmt pSnapTime supply now maxAnnual rate period := by
  rw [inflationMint_eq]; split <;> omega

/-- **no inflationary minting once the annual gate is closed** -/
theorem annual_gate (ySnapAmt ySnapTime pSnapAmt pSnapTime supply now : Int) (maxAnnual rate : Dec.D) (period : Int)
    (h : inflationPossible ySnapAmt ySnapTime supply now maxAnnual = false) :
    inflationMint ySnapAmt ySnapTime pSnapAmt pSnapTime supply now maxAnnual rate period = 0 := by
  unfold inflationMint; simp [h]

/-- what the gate tests: closed exactly when the supply has grown, relative to the year-start snapshot, by at least
the allowed annual maximum pro-rated by (started) months -/
theorem gate_closed_iff (snapAmt snapTime supply now : Int) (maxAnnual : Dec.D) (hs : snapAmt ≠ 0) :
    inflationPossible snapAmt snapTime supply now maxAnnual = false ↔
      Dec.quo (Dec.ofInt supply) (Dec.ofInt snapAmt) - Dec.one ≥
        Dec.quo (Dec.mul maxAnnual (Dec.ofInt (Int.tdiv (now - snapTime + month - 1) month))) (Dec.ofInt 12) := by
  unfold inflationPossible
  simp [hs]

example : inflationMint 0 0 1000000 100 1000000 (100 + 2629800) 0 (Dec.P / 10) 2629800 = 100000 := by decide +kernel
example : inflationPossible 1000000 0 1200000 86400 (Dec.P / 10) = false := by decide +kernel

/-- **the stored supply snapshots are real**: each is the (block time, end-of-block supply) of a block the chain
produced — never a back-dated or forward-dated time paired with a supply sampled at another moment -/
def SnapReal (s : Infl) (log : List (Int × Int)) : Prop :=
  (s.pTime = 0 ∨ (s.pTime, s.pAmt) ∈ log) ∧ (s.yTime = 0 ∨ (s.yTime, s.yAmt) ∈ log)

theorem snapReal_step {t a t' a' now sup : Int} {log : List (Int × Int)} (h : t = 0 ∨ (t, a) ∈ log)
    (hk : (t' = t ∧ a' = a) ∨ (t' = now ∧ a' = sup)) : t' = 0 ∨ (t', a') ∈ (now, sup) :: log := by
  rcases hk with ⟨rfl, rfl⟩ | ⟨rfl, rfl⟩
  · exact h.imp id (List.mem_cons_of_mem _)
  · exact .inr (List.mem_cons_self ..)

theorem snapReal_block (c : InflCfg) (s : Infl) (log : List (Int × Int)) (now : Int) (f : Bool) (h : SnapReal s log) :
    SnapReal (inflBlock c s now f) ((now, (inflBlock c s now f).supply) :: log) := by
  -- `inflBegin` keeps both snapshots; `inflEnd` keeps each or re-takes it as (now, supply)
  obtain ⟨hp, ha, hy, hb⟩ := inflBegin_snap c s now f
  obtain ⟨hs, hP, hY⟩ := inflEnd_snap c (inflBegin c s now f) now
  unfold inflBlock
  rw [hs]
  exact ⟨snapReal_step h.1 (hp ▸ ha ▸ hP), snapReal_step h.2 (hy ▸ hb ▸ hY)⟩

theorem snapshots_real (c : InflCfg) (times : List Int) (s : Infl) (log : List (Int × Int)) (h : SnapReal s log) :
    SnapReal (inflRun c s log times).1 (inflRun c s log times).2 := by
  induction times generalizing s log with
  | nil => exact h
  | cons now rest ih =>
    simp only [inflRun]
    exact ih _ _ (snapReal_block c s log now false h)

/-- **one block's inflation never lifts supply above the stored period snapshot grown pro rata** -/
theorem block_supply_bound (c : InflCfg) (s : Infl) (now : Int)
    (hs : 0 ≤ s.pAmt) (hr : 0 ≤ c.rate) (ht : s.pTime ≤ now) (hp : 0 < c.period) :
    (inflBegin c s now false).supply ≤
      max s.supply (s.pAmt + (s.pAmt * c.rate * (now - s.pTime)) / (c.period * Dec.P) + 1) := by
  rw [inflBegin_supply]
  exact inflation_bound s.yAmt s.yTime s.pAmt s.pTime s.supply now c.maxAnnual c.rate c.period hs hr ht hp

/-- **… and that snapshot is the supply the chain really had at the end of an earlier block**: after any chain of
blocks, the next block's inflation leaves supply at most at the supply of some earlier block end `(t, a)` grown pro
rata over the time since `t` (or no period snapshot exists yet) -/
theorem supply_le_real_snapshot_grown (c : InflCfg) (times : List Int) (s0 : Infl) (now : Int)
    (hr : 0 ≤ c.rate) (hp : 0 < c.period)
    (hs : let s := (inflRun c s0 [] times).1; 0 ≤ s.pAmt ∧ s.pTime ≤ now)
    (h0 : s0.pTime = 0 ∧ s0.yTime = 0) :
    let s := (inflRun c s0 [] times).1
    let log := (inflRun c s0 [] times).2
    s.pTime = 0 ∨ ∃ ta ∈ log, (inflBegin c s now false).supply ≤
      max s.supply (ta.2 + (ta.2 * c.rate * (now - ta.1)) / (c.period * Dec.P) + 1) := by
  intro s log
  have hreal := snapshots_real c times s0 [] ⟨Or.inl h0.1, Or.inl h0.2⟩
  rcases hreal.1 with hz | hm
  · exact Or.inl hz
  · exact Or.inr ⟨(s.pTime, s.pAmt), hm, block_supply_bound c s now hs.1 hr hs.2 hp⟩

/-- non-vacuity: two months of daily blocks from a 1 000 000 supply at 10 % per period: the period snapshot is
re-taken twice (day 32, day 63), each time with that block's own time -/
example :
    let r := inflRun ⟨Dec.P, Dec.P / 10, 2629800⟩ ⟨1000000, 0, 0, 0, 0⟩ [] ((List.range 70).map (fun (i : Nat) => (1700000000 : Int) + 86400 * ((i : Int) + 1)))
    (r.1.pTime, decide ((r.1.pTime, r.1.pAmt) ∈ r.2), decide (r.1.supply > 1000000)) = (1700000000 + 86400 * 63, true, true) := by
  decide +kernel

def exactTerm (ys amount period : Nat) : Nat := amount * ys / period
def exactSumFrom (ys : Nat) (records : List (Nat × Nat)) (acc : Nat) : Nat :=
  records.foldl (fun acc r => acc + exactTerm ys r.1 r.2) acc
/-- what the property asks for: the exact yearly total of all records stays within the cap -/
def exactOk (ys : Nat) (records : List (Nat × Nat)) (amount period hardcap : Nat) : Prop :=
  exactSumFrom ys records 0 + exactTerm ys amount period ≤ hardcap

theorem exactSum_acc (ys : Nat) (l : List (Nat × Nat)) (a : Nat) :
    exactSumFrom ys l a = a + exactSumFrom ys l 0 := by
  induction l generalizing a with
  | nil => simp [exactSumFrom]
  | cons x xs ih =>
    simp only [exactSumFrom, List.foldl_cons] at ih ⊢
    rw [ih (a + exactTerm ys x.1 x.2), ih (0 + exactTerm ys x.1 x.2)]
    omega

theorem exactSum_mono (ys : Nat) (l : List (Nat × Nat)) (a : Nat) : a ≤ exactSumFrom ys l a := by
  rw [exactSum_acc]; omega

theorem exactSum_cons (ys : Nat) (x : Nat × Nat) (l : List (Nat × Nat)) :
    exactSumFrom ys (x :: l) 0 = exactTerm ys x.1 x.2 + exactSumFrom ys l 0 := by
  have := exactSum_acc ys l (0 + exactTerm ys x.1 x.2)
  simp only [exactSumFrom, List.foldl_cons] at this ⊢
  omega

theorem exactSum_append (ys : Nat) (l : List (Nat × Nat)) (x : Nat × Nat) :
    exactSumFrom ys (l ++ [x]) 0 = exactSumFrom ys l 0 + exactTerm ys x.1 x.2 := by
  simp [exactSumFrom, List.foldl_append]

theorem exactSum_set_le (ys : Nat) (l : List (Nat × Nat)) (j : Nat) (x : Nat × Nat) :
    exactSumFrom ys (l.set j x) 0 ≤ exactSumFrom ys l 0 + exactTerm ys x.1 x.2 := by
  induction l generalizing j with
  | nil => simp [exactSumFrom]
  | cons y ys' ih =>
    cases j with
    | zero =>
      rw [List.set_cons_zero, exactSum_cons, exactSum_cons]; omega
    | succ j =>
      rw [List.set_cons_succ, exactSum_cons, exactSum_cons]
      have := ih j; omega

theorem term_eq_exactTerm {ys w amount : Nat} (period : Nat) (h : amount * ys < w) :
    term ys w amount period = exactTerm ys amount period := by
  unfold term exactTerm mul64; rw [Nat.mod_eq_of_lt h]

theorem sum_exact {ys w : Nat} {records : List (Nat × Nat)} {acc : Nat}
    (hmul : ∀ r ∈ records, r.1 * ys < w) (hsum : exactSumFrom ys records acc < w) :
    ubiSumFrom ys w records acc = exactSumFrom ys records acc := by
  induction records generalizing acc with
  | nil => rfl
  | cons r rest ih =>
    simp only [ubiSumFrom, exactSumFrom, List.foldl_cons] at hsum ⊢
    have hpre : acc + exactTerm ys r.1 r.2 < w := Nat.lt_of_le_of_lt (exactSum_mono ys rest _) hsum
    rw [term_eq_exactTerm r.2 (hmul r (List.mem_cons_self ..)), add64, Nat.mod_eq_of_lt hpre]
    exact ih (fun x hx => hmul x (List.mem_cons_of_mem _ hx)) hsum

def ubi_hardcap_full : Prop :=
  ∀ (records : List (Nat × Nat)) (amount period hardcap : Nat),
    accept yearSeconds word records amount period hardcap = true → exactOk yearSeconds records amount period hardcap

/-- partial: with no wrap-around anywhere the uint64 test is exactly the intended test -/
theorem ubi_hardcap_partial (ys w : Nat) (records : List (Nat × Nat)) (amount period hardcap : Nat)
    (hmul : ∀ r ∈ records, r.1 * ys < w) (ha : amount * ys < w)
    (hsum : exactSumFrom ys records 0 + exactTerm ys amount period < w) :
    accept ys w records amount period hardcap = true ↔ exactOk ys records amount period hardcap := by
  unfold accept exactOk
  rw [sum_exact hmul (Nat.lt_of_le_of_lt (Nat.le_add_right ..) hsum), term_eq_exactTerm period ha, add64,
    Nat.mod_eq_of_lt hsum]
  simp

/-- **after every accepted upsert — under a new name or replacing a stored record — the exact yearly total of the
stored records is within the cap**, when no uint64 wrap-around occurs (the replaced record is counted too, which
only makes the test stricter) -/
theorem ubi_state_within_cap_partial (records : List (Nat × Nat)) (replace : Option Nat)
    (amount period hardcap : Nat) (rs' : List (Nat × Nat))
    (hmul : ∀ r ∈ records, r.1 * yearSeconds < word) (ha : amount * yearSeconds < word)
    (hsum : exactSumFrom yearSeconds records 0 + exactTerm yearSeconds amount period < word)
    (h : ubiApply records replace amount period hardcap = some (some rs')) :
    exactSumFrom yearSeconds rs' 0 ≤ hardcap := by
  obtain ⟨hacc, hrs⟩ := ubiApply_some_some h
  have hok := (ubi_hardcap_partial yearSeconds word records amount period hardcap hmul ha hsum).mp hacc
  rcases hrs with rfl | ⟨j, _, rfl⟩
  · rw [exactSum_append]; exact hok
  · exact Nat.le_trans (exactSum_set_le yearSeconds records j (amount, period)) hok

example : ubiApply [(500000, 2592000), (100, 31556952)] (some 1) 200 31556952 7000000
    = some (some [(500000, 2592000), (200, 31556952)]) := by decide

/-- the full statement is false: 584 554 049 254 KEX per year is accepted under a 7 M cap (uint64 wrap-around);
this witness is replayed on the real handler by the harness -/
theorem ubi_hardcap_counterexample : ¬ ubi_hardcap_full := by
  intro h
  have := h [] 584554049254 31556952 7000000 (by decide)
  unfold exactOk exactSumFrom exactTerm yearSeconds at this
  simp at this

example : accept yearSeconds word [(500000, 2592000)] 100 31556952 7000000 = true := by decide

/-- **a record pays at most once per period**: if it paid at `t1` it cannot pay at a later `t2` within `period` - on the
gate over unbounded numbers (`Mint.ubiDue`). The gate as coded adds in uint64 (`Ubi.due`): for it C18 has
`ubi_once_per_period_partial` (no wrap-around) and `ubi_once_per_period_counterexample`. -/
theorem ubi_once_per_period (r : UbiRec) (t1 t2 : Nat) (h1 : (ubiStep r t1).2 ≠ 0)
    (h2 : t2 ≤ t1 + r.period) : (ubiStep (ubiStep r t1).1 t2).2 = 0 := by
  revert h1
  fun_cases ubiStep r t1 <;> intro h1
  next =>                             -- paid at `t1` and stamped with it: `t2` is not past `t1 + period`
    have : ubiDue { r with last := t1 } t2 = false := by simp [ubiDue]; omega
    simp [ubiStep, this]
  next => exact absurd rfl h1         -- not due at `t1`: nothing was paid

/-- a payout is exactly the record's amount (in base units) -/
theorem ubi_payout_amount (r : UbiRec) (t : Nat) : (ubiStep r t).2 = 0 ∨ (ubiStep r t).2 = r.amount * 1000000 := by
  unfold ubiStep; split <;> simp

example : (ubiStep ⟨500000, 2592000, 0, 0⟩ 2592001).2 = 500000000000 := by decide

section UbiGate
open Sekai.Ubi

/-- **the annual gate is consulted for every record, against what the block has already minted**: in the list of this
block's payouts every payout was made while the amount minted before it (by the earlier payouts of the same block, on top
of `minted`) was still below the room the gate leaves - once the room is used up no further record is paid. -/
theorem payouts_within_room (now : Nat) (room : Nat) (recs : List Rec) :
    ∀ (minted : Nat) (s s' : State) (l : List (Nat × Nat)),
      endLoop now (some room) minted recs s = some (s', l) →
      ∀ (pre : List (Nat × Nat)) (x : Nat × Nat) (post : List (Nat × Nat)), l = pre ++ x :: post →
        minted + (pre.map (·.2)).sum < room := by
  intro minted s s' l h pre
  induction pre generalizing minted recs s l with
  | nil =>
    intro x post hl; subst hl
    simpa [gateOpen] using (endLoop_first_payout h).1
  | cons y pre ih =>
    intro x post hl; subst hl
    obtain ⟨_, rest, s1, h1⟩ := endLoop_first_payout h
    have := ih rest (minted + y.2) s1 _ h1 x post rfl
    simp only [List.map_cons, List.sum_cons]; omega

/-- room 3 000 000: the gate is open with nothing minted and closed once the first payout (7·10⁶) is minted; without a gate (`none`) it stays open -/
example :
    let r1 : Rec := { name := 1, start := 0, stop := 0, last := 0, amount := 7, period := 10, pool := 0, dynamic := false }
    let r2 : Rec := { name := 2, start := 0, stop := 0, last := 0, amount := 5, period := 10, pool := 0, dynamic := false }
    (gateOpen (some 3000000) 0, gateOpen (some 3000000) 7000000, gateOpen none 7000000, r1.amount + r2.amount) = (true, false, true, 12) := by decide
end UbiGate

/-- **a token's recorded supply grows by exactly what is minted through the registry** (and so does the bank supply) -/
theorem supply_tracks_mints (t t' : TokenInfo) (bank bank' amt : Int) (h : registryMint t bank amt = some (t', bank')) :
    t'.supply = t.supply + amt ∧ bank' = bank + amt ∧ t'.cap = t.cap := by
  obtain ⟨_, rfl, rfl⟩ := registryMint_eq_some.mp h
  exact ⟨rfl, rfl, rfl⟩

/-- **and never exceeds its supply cap** -/
theorem supply_le_cap (t t' : TokenInfo) (bank bank' amt : Int) (h : registryMint t bank amt = some (t', bank'))
    (hcap : 0 < t.cap) : t'.supply ≤ t'.cap := by
  obtain ⟨hc, rfl, _⟩ := registryMint_eq_some.mp h
  exact capOk_le hc hcap

/-- **an owner can never raise or remove a cap** -/
theorem owner_cannot_raise_cap (t t' : TokenInfo) (sender : Nat) (newCap : Int) (newOwner : Nat) (nd : Bool)
    (h : ownerEdit t sender newCap newOwner nd = some t') (hcap : t.cap ≠ 0) :
    t'.cap ≠ 0 ∧ t'.cap ≤ t.cap ∧ t'.supply = t.supply ∧ t.owner = sender ∧ t.ownerEditDisabled = false := by
  obtain ⟨ho, hd, hn, _, rfl⟩ := ownerEdit_eq_some.mp h
  have := hn hcap
  exact ⟨by show newCap ≠ 0; omega, this.2, rfl, ho, hd⟩

example : registryMint ⟨90, 100, 1, false⟩ 90 10 = some (⟨100, 100, 1, false⟩, 100) ∧ registryMint ⟨90, 100, 1, false⟩ 90 11 = none := by decide
example : ownerEdit ⟨90, 100, 1, false⟩ 1 95 1 false = some ⟨90, 95, 1, false⟩ ∧ ownerEdit ⟨90, 100, 1, false⟩ 1 0 1 false = none ∧
    ownerEdit ⟨90, 100, 1, false⟩ 1 101 1 false = none := by decide

/-- **an accepted owner edit leaves the recorded supply within the (new) cap** — the cap bounds the supply after every
accepted write of the registry, not only after mints -/
theorem owner_edit_supply_within_cap (t t' : TokenInfo) (sender : Nat) (newCap : Int) (newOwner : Nat) (nd : Bool)
    (h : ownerEdit t sender newCap newOwner nd = some t') (hcap : 0 < t'.cap) : t'.supply ≤ t'.cap := by
  obtain ⟨_, _, _, hc, rfl⟩ := ownerEdit_eq_some.mp h
  exact capOk_le hc hcap

example : ownerEdit ⟨800, 1000, 3, false⟩ 3 500 3 false = none := by decide
/-- a message without a supply cap (coded as a negative one) cannot lift the cap of a capped token -/
example : ownerEdit ⟨800, 1000, 3, false⟩ 3 (-1) 3 false = none := by decide
example : (ownerEdit ⟨800, 1000, 3, false⟩ 3 900 3 false).isSome = true := by decide

/-- **a governance edit of a registered token leaves the registry's books alone**: whatever the proposal carries in its
supply and cap fields, an enacted `UpsertTokenInfos` proposal for an existing denomination keeps the recorded supply (so it
keeps equalling what was minted), the cap, the owner and the owner-edit switch -/
theorem gov_edit_keeps_registry_fields (t t' : TokenInfo) (ps pc : Int) (h : govEdit t ps pc = some t') : t' = t :=
  (govEdit_eq_some.mp h).2

theorem mint_after_gov_edit_within_cap (t t1 t2 : TokenInfo) (ps pc bank amt : Int) (b2 : Int)
    (h1 : govEdit t ps pc = some t1) (h2 : registryMint t1 bank amt = some (t2, b2)) (hc : 0 < t.cap) :
    t2.supply = t.supply + amt ∧ t2.supply ≤ t.cap := by
  obtain rfl := gov_edit_keeps_registry_fields t t1 ps pc h1
  obtain ⟨hk, rfl, _⟩ := registryMint_eq_some.mp h2
  exact ⟨rfl, capOk_le hk hc⟩

example : govEdit ⟨900, 1000, 2, false⟩ 0 0 = some ⟨900, 1000, 2, false⟩ ∧
    registryMint ⟨900, 1000, 2, false⟩ 900 900 = none := by decide

def expectedMintBurn : List (String × String × String × String) := [
  ("app/test_helpers.go", "saveAccount", "app.BankKeeper.MintCoins", "minttypes.ModuleName | initCoins"),
  ("x/basket/keeper/mint_burn_swap.go", "Keeper.BurnBasketToken", "k.tk.BurnCoins", "types.ModuleName | burnCoins"),
  ("x/basket/keeper/mint_burn_swap.go", "Keeper.MintBasketToken", "k.tk.MintCoins", "types.ModuleName | basketCoins"),
  ("x/distributor/keeper/distributor.go", "Keeper.AllocateTokens", "k.tk.MintCoins", "minttypes.ModuleName | sdk.Coins{inflationCoin}"),
  ("x/layer2/keeper/abci.go", "Keeper.FinishDappBootstrap", "k.tk.MintCoins", "types.ModuleName | sdk.Coins{sdk.NewCoin(dappBondLpToken, totalSupply)}"),
  ("x/layer2/keeper/lp_swap_redeem_convert.go", "Keeper.OnCollectFee", "k.tk.BurnCoins", "types.ModuleName | fee"),
  ("x/layer2/keeper/msg_server.go", "msgServer.MintBurnTx", "k.keeper.tk.BurnCoins", "types.ModuleName | sdk.Coins{burnCoin}"),
  ("x/layer2/keeper/msg_server.go", "msgServer.MintCreateFtTx", "k.keeper.tk.BurnCoins", "types.ModuleName | sdk.Coins{fee}"),
  ("x/layer2/keeper/msg_server.go", "msgServer.MintCreateNftTx", "k.keeper.tk.BurnCoins", "types.ModuleName | sdk.Coins{fee}"),
  ("x/layer2/keeper/msg_server.go", "msgServer.MintIssueTx", "k.keeper.tk.MintCoins", "types.ModuleName | sdk.Coins{mintCoin}"),
  ("x/multistaking/keeper/delegation.go", "Keeper.Delegate", "k.tokenKeeper.MintCoins", "minttypes.ModuleName | poolCoins"),
  ("x/multistaking/keeper/delegation.go", "Keeper.Undelegate", "k.bankKeeper.BurnCoins", "types.ModuleName | poolCoins"),
  ("x/multistaking/keeper/slash.go", "Keeper.SlashStakingPool", "k.bankKeeper.BurnCoins", "types.ModuleName | burnAmount"),
  ("x/recovery/keeper/msg_server.go", "msgServer.BurnRecoveryTokens", "k.tk.BurnCoins", "types.ModuleName | sdk.NewCoins(msg.RrCoin)"),
  ("x/recovery/keeper/msg_server.go", "msgServer.IssueRecoveryTokens", "k.tk.MintCoins", "types.ModuleName | recoveryCoins"),
  ("x/tokens/keeper/burn.go", "Keeper.BurnCoins", "k.bankKeeper.BurnCoins", "moduleName | amt"),
  ("x/tokens/keeper/mint.go", "Keeper.MintCoins", "k.bankKeeper.MintCoins", "moduleName | amt"),
  ("x/ubi/keeper/ubi.go", "Keeper.ProcessUBIRecord", "k.tk.MintCoins", "minttypes.ModuleName | sdk.NewCoins(coin)")
]

/-- **coins are created and destroyed only at these call sites** (any new mint/burn call, or a changed module or
amount expression, re-opens this obligation). Of these, the native denomination can be minted by AllocateTokens
(inflation), ProcessUBIRecord (UBI) and — a recorded finding — layer2 MintIssueTx, whose denomination comes from
the message. -/
theorem mint_burn_sites : Sekai.Gen.BankFlows.mintBurn = expectedMintBurn := by
  -- not `rfl` like the other reviewed tables: `mintBurn` is not a literal but `flows.filter (callee ends with …)`. Both
  -- sides are read as character rows (Lemmas/Chars) and the rows are compared, so that no `endsWith` runs on a string
  rw [Chars.mintBurn_eq, Chars.Reads4.eq (l := expectedMintBurn) (by repeat constructor)]
  exact congrArg (List.map Chars.Row.str) (by decide +kernel)

theorem minters_as_reviewed :
    Sekai.App.holders Sekai.Gen.App.maccPerms "authtypes.Minter" =
      ["baskettypes.ModuleName", "layer2types.ModuleName", "minttypes.ModuleName", "recoverytypes.ModuleName"] ∧
    Sekai.App.holders Sekai.Gen.App.maccPerms "authtypes.Burner" =
      ["baskettypes.ModuleName", "layer2types.ModuleName", "multistakingtypes.ModuleName", "recoverytypes.ModuleName"] := by
  decide +kernel

/-- every mint call site names a module account that holds the Minter permission (the two tokens-keeper wrappers pass
their caller's module on) — two regenerated tables checked against each other. C04 `mint_burn_sites_are_permitted` says
the same of the mint AND the burn sites, without the `app/test_helpers.go` row that this one covers. -/
theorem mint_sites_name_minters :
    ((Sekai.Gen.BankFlows.mintBurn.filter fun r => r.2.2.1.endsWith "MintCoins" && !r.1.startsWith "x/tokens/").all fun r =>
      (Sekai.App.holders Sekai.Gen.App.maccPerms "authtypes.Minter").contains (Sekai.App.siteModule r.1 r.2.2.2)) = true := by
  rw [Chars.mintBurn_eq]
  simp only [List.filter_map, List.all_map, Function.comp_def, Chars.Row.str, Chars.startsWith_ofList, Chars.endsWith_ofList,
    Chars.siteModule_ofList]
  decide +kernel

/-! ### Key spaces of the stores this model keeps in separate maps (table `Gen.Keys`; why it matters: `Sekai/Model/Keys.lean`) -/

theorem distributor_key_spaces_disjoint : Sekai.Keys.disjoint Sekai.Gen.Keys.stores "distributor" = true :=
  Keys.disjoint_of_pairwise_apart (by decide +kernel)

theorem ubi_key_spaces_disjoint : Sekai.Keys.disjoint Sekai.Gen.Keys.stores "ubi" = true :=
  Keys.disjoint_of_pairwise_apart (by decide +kernel)

end Sekai.Props.C13
