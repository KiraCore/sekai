import Sekai.Gen.BankFlows
import Sekai.Gen.App
import SekaiProofs.Lemmas.Bank
import SekaiProofs.Lemmas.Fold
import SekaiProofs.Lemmas.Chars
import SekaiProofs.Props.C10
import SekaiProofs.Props.C11
import SekaiProofs.Props.C16
/-! # C04 — Supply is conserved and every module can pay what it owes

* bank level: supply = Σ balances after every sequence of send / mint / burn over accounts inside the domain (`conservation`,
  hypothesis `op.within n`); only mint and burn change a supply; a failed operation changes nothing.
* `coin_flows_as_reviewed`: every call of a coin-moving bank / tokens keeper function in the current source
  (regenerated table): the modules touch balances only through these primitives, and a new call site re-opens this. Its mint and
  burn rows, the tokens-keeper wrappers and app/test_helpers.go aside, name module accounts that hold the permission
  (`mint_burn_sites_are_permitted`, against `Gen.App.maccPerms`).
* module solvency is proved in the module slices and restated here; spending pools and layer-2 dApp bonds stand in C18 and C20.
  Where the code violates solvency the slices carry the closed counterexamples (recorded findings C10/C11/C18/C20 keys).
* dynamic tie: after every block of mixed real-block histories, Σ balances = supply per denomination and every module
  account ≥ its liabilities recomputed from the module's own records. -/
namespace Sekai.Props.C04
open Sekai.Bank

/-- **the supply of each denomination equals the sum of all balances after every sequence of bank operations** -/
theorem conservation (n : Nat) (b : B) (hc : Conserved n b) (ops : List Op) (hw : ∀ op ∈ ops, op.within n) :
    Conserved n (ops.foldl apply b) :=
  Fold.getD_inv ops (fun op hop b b' hc hs => conserved_step hc (hw op hop) hs) hc

/-- **coins appear and disappear only through mint and burn** -/
theorem only_mint_burn_change_supply (b b' : B) (op : Op) (hs : step b op = some b') (d : Nat) (hd : b'.supply d ≠ b.supply d) :
    (∃ t amt, op = .mint t d amt) ∨ (∃ s amt, op = .burn s d amt) := by
  cases op with
  | send s t d0 amt => obtain ⟨rfl, _⟩ := send_some hs; exact absurd rfl hd
  | mint t d0 amt =>
    obtain ⟨rfl, _⟩ := mint_some hs
    obtain rfl : d = d0 := Decidable.byContradiction fun e => hd (if_neg e)
    exact .inl ⟨t, amt, rfl⟩
  | burn s d0 amt =>
    obtain ⟨rfl, _⟩ := burn_some hs
    obtain rfl : d = d0 := Decidable.byContradiction fun e => hd (if_neg e)
    exact .inr ⟨s, amt, rfl⟩

/-- a failed bank operation leaves balances and supply unchanged (message-cache semantics) -/
theorem failed_ops_roll_back (b : B) (op : Op) (h : step b op = none) : apply b op = b := by simp [apply, h]

example : Conserved 3 ([Op.mint 2 0 100, .send 2 0 0 40, .burn 2 0 10, .send 0 1 0 50].foldl apply {}) := by
  apply conservation 3 {} (fun _ => by simp [total, totalF])
  intro op hop
  simp at hop
  rcases hop with rfl | rfl | rfl | rfl <;> simp [Op.within]

/-- multistaking: module balance ≥ Σ pool stake + Σ pending undelegations, through delegations, undelegations, slashes and claims -/
theorem multistaking_solvent (s0 : Sekai.MultiStake.St) (h0 : Sekai.MultiStake.Inv s0) (ops : List Sekai.MultiStake.Op) (d : Sekai.MultiStake.Denom) :
    Sekai.MultiStake.stakeSum (Sekai.MultiStake.run s0 ops).pools d + Sekai.MultiStake.undelSum (Sekai.MultiStake.run s0 ops).undels d
      ≤ (Sekai.MultiStake.run s0 ops).bal .ms d :=
  Sekai.Props.C10.module_solvent s0 h0 ops d

/-- basket: the module holds the recorded reserves and surplus; token supply = recorded amount -/
theorem basket_solvent (ops : List Sekai.Basket.Op) (s : Sekai.Basket.St) (hok : ∀ op ∈ ops, Sekai.Props.C11.OpOk op) (hinv : Sekai.Props.C11.Inv s) :
    Sekai.Props.C11.ModuleHolds (Sekai.Basket.run s ops) ∧ Sekai.Props.C11.SupplyEq (Sekai.Basket.run s ops) :=
  ⟨Sekai.Props.C11.module_holds_reserves_and_surplus ops s hok hinv, Sekai.Props.C11.supply_eq_amount ops s hok hinv⟩

/-- gov escrow = Σ tips of pending identity-verification requests, over every history -/
theorem gov_tip_escrow {S0 : Sekai.Ident.State} (g : Sekai.Props.C16.Genesis S0) (ops : List Sekai.Ident.Op) :
    Sekai.Ident.EscInv (Sekai.Ident.run S0 ops) :=
  Sekai.Props.C16.tip_escrow g ops

def expectedFlows : List (String × String × String × String) := [
  ("app/test_helpers.go", "saveAccount", "app.BankKeeper.MintCoins", "minttypes.ModuleName | initCoins"),
  ("app/test_helpers.go", "saveAccount", "app.BankKeeper.SendCoinsFromModuleToAccount", "minttypes.ModuleName | addr | initCoins"),
  ("x/basket/keeper/mint_burn_swap.go", "Keeper.BasketSwap", "k.bk.SendCoinsFromAccountToModule", "sender | types.ModuleName | inCoins"),
  ("x/basket/keeper/mint_burn_swap.go", "Keeper.BasketSwap", "k.bk.SendCoinsFromModuleToAccount", "types.ModuleName | sender | finalOutCoins"),
  ("x/basket/keeper/mint_burn_swap.go", "Keeper.BasketWithdrawSurplus", "k.bk.SendCoinsFromModuleToAccount", "types.ModuleName | withdrawTarget | sdk.Coins(basket.Surplus)"),
  ("x/basket/keeper/mint_burn_swap.go", "Keeper.BasketWithdrawSurplus", "k.bk.SendCoinsFromModuleToAccount", "types.ModuleName | withdrawTarget | rewards"),
  ("x/basket/keeper/mint_burn_swap.go", "Keeper.BurnBasketToken", "k.bk.SendCoinsFromAccountToModule", "sender | types.ModuleName | burnCoins"),
  ("x/basket/keeper/mint_burn_swap.go", "Keeper.BurnBasketToken", "k.tk.BurnCoins", "types.ModuleName | burnCoins"),
  ("x/basket/keeper/mint_burn_swap.go", "Keeper.BurnBasketToken", "k.bk.SendCoinsFromModuleToAccount", "types.ModuleName | sender | withdrawCoins"),
  ("x/basket/keeper/mint_burn_swap.go", "Keeper.MintBasketToken", "k.bk.SendCoinsFromAccountToModule", "sender | types.ModuleName | msg.Deposit"),
  ("x/basket/keeper/mint_burn_swap.go", "Keeper.MintBasketToken", "k.tk.MintCoins", "types.ModuleName | basketCoins"),
  ("x/basket/keeper/mint_burn_swap.go", "Keeper.MintBasketToken", "k.bk.SendCoinsFromModuleToAccount", "types.ModuleName | sender | basketCoins"),
  ("x/collectives/keeper/abci.go", "Keeper.DistributeCollectiveRewards", "k.bk.SendCoinsFromAccountToModule", "delegator | types.ModuleName | coins"),
  ("x/collectives/keeper/collective.go", "Keeper.SendDonation", "k.bk.SendCoinsFromModuleToAccount", "types.ModuleName | account | coins"),
  ("x/collectives/keeper/collective.go", "Keeper.WithdrawCollective", "k.bk.SendCoins", "collectiveAddr | addr | collectiveBonds"),
  ("x/collectives/keeper/collective.go", "Keeper.WithdrawCollective", "k.bk.SendCoins", "collectiveDonationAddr | addr | donationBonds"),
  ("x/collectives/keeper/msg_server.go", "msgServer.ContributeCollective", "k.keeper.bk.SendCoins", "sender | collectiveAddr | msg.Bonds"),
  ("x/collectives/keeper/msg_server.go", "msgServer.ContributeCollective", "k.keeper.bk.SendCoins", "collectiveAddr | collectiveDonationAddr | donationCoins"),
  ("x/collectives/keeper/msg_server.go", "msgServer.CreateCollective", "k.keeper.bk.SendCoins", "sender | collectiveAddr | msg.Bonds"),
  ("x/collectives/keeper/msg_server.go", "msgServer.DonateCollective", "k.keeper.bk.SendCoins", "collectiveDonationAddr | collectiveAddr | movingBonds"),
  ("x/collectives/keeper/msg_server.go", "msgServer.DonateCollective", "k.keeper.bk.SendCoins", "collectiveAddr | collectiveDonationAddr | movingBonds"),
  ("x/custody/keeper/msg_server.go", "msgServer.ApproveTransaction", "s.bk.SendCoins", "from | to | tx.Amount"),
  ("x/custody/keeper/msg_server.go", "msgServer.PasswordConfirm", "s.bk.SendCoins", "from | to | tx.Amount"),
  ("x/custody/keeper/msg_server.go", "msgServer.Send", "s.bk.SendCoins", "from | to | msg.Amount"),
  ("x/custody/keeper/msg_server.go", "msgServer.sendReward", "s.bk.SendCoins", "FromAddress | ToAddress | Amount"),
  ("x/distributor/keeper/distributor.go", "Keeper.AllocateTokens", "k.tk.MintCoins", "minttypes.ModuleName | sdk.Coins{inflationCoin}"),
  ("x/distributor/keeper/distributor.go", "Keeper.AllocateTokens", "k.bk.SendCoinsFromModuleToModule", "minttypes.ModuleName | authtypes.FeeCollectorName | sdk.Coins{inflationCoin}"),
  ("x/distributor/keeper/distributor.go", "Keeper.AllocateTokensToValidator", "k.bk.SendCoinsFromModuleToModule", "authtypes.FeeCollectorName | recoverytypes.ModuleName | tokens"),
  ("x/distributor/keeper/distributor.go", "Keeper.AllocateTokensToValidator", "k.bk.SendCoinsFromModuleToAccount", "authtypes.FeeCollectorName | acc | tokens"),
  ("x/ethereum/keeper/msg_server.go", "msgServer.Relay", "m.bk.SendCoins", "from | to | msg.Amount"),
  ("x/feeprocessing/keeper/keeper.go", "Keeper.ProcessExecutionFeeReturn", "k.SendCoinsFromModuleToAccount", "authtypes.FeeCollectorName | exec.FeePayer | fees"),
  ("x/feeprocessing/keeper/keeper.go", "Keeper.SendCoinsFromAccountToModule", "k.bk.SendCoinsFromAccountToModule", "senderAddr | recipientModule | amt"),
  ("x/feeprocessing/keeper/keeper.go", "Keeper.SendCoinsFromModuleToAccount", "k.bk.SendCoinsFromModuleToAccount", "senderModule | recipientAddr | paybackCoins"),
  ("x/gov/keeper/identity_registrar.go", "Keeper.CancelIdentityRecordsVerifyRequest", "k.bk.SendCoinsFromModuleToAccount", "types.ModuleName | requester | sdk.Coins{request.Tip}"),
  ("x/gov/keeper/identity_registrar.go", "Keeper.HandleIdentityRecordsVerifyRequest", "k.bk.SendCoinsFromModuleToAccount", "types.ModuleName | verifier | sdk.Coins{request.Tip}"),
  ("x/gov/keeper/identity_registrar.go", "Keeper.RequestIdentityRecordsVerify", "k.bk.SendCoinsFromAccountToModule", "address | types.ModuleName | sdk.Coins{tip}"),
  ("x/layer2/keeper/abci.go", "Keeper.EndBlocker", "k.bk.SendCoinsFromModuleToAccount", "types.ModuleName | teamReserve | sdk.Coins{premintCoin}"),
  ("x/layer2/keeper/abci.go", "Keeper.FinishDappBootstrap", "k.tk.MintCoins", "types.ModuleName | sdk.Coins{sdk.NewCoin(dappBondLpToken, totalSupply)}"),
  ("x/layer2/keeper/abci.go", "Keeper.FinishDappBootstrap", "k.bk.SendCoinsFromModuleToAccount", "types.ModuleName | teamReserve | sdk.Coins{premintCoin}"),
  ("x/layer2/keeper/dapp.go", "Keeper.ExecuteDappRemove", "k.bk.SendCoinsFromModuleToAccount", "types.ModuleName | addr | sdk.Coins{userBond.Bond}"),
  ("x/layer2/keeper/dapp_session.go", "Keeper.ResetNewSession", "k.bk.SendCoinsFromModuleToAccount", "types.ModuleName | addr | lpCoins"),
  ("x/layer2/keeper/lp_swap_redeem_convert.go", "Keeper.OnCollectFee", "k.tk.BurnCoins", "types.ModuleName | fee"),
  ("x/layer2/keeper/lp_swap_redeem_convert.go", "Keeper.RedeemDappPoolTx", "k.bk.SendCoinsFromAccountToModule", "addr | types.ModuleName | sdk.Coins{lpTokenAmount}"),
  ("x/layer2/keeper/lp_swap_redeem_convert.go", "Keeper.RedeemDappPoolTx", "k.bk.SendCoinsFromModuleToAccount", "types.ModuleName | addr | sdk.Coins{userReceiveCoin}"),
  ("x/layer2/keeper/lp_swap_redeem_convert.go", "Keeper.SwapDappPoolTx", "k.bk.SendCoinsFromAccountToModule", "addr | types.ModuleName | sdk.Coins{swapBond}"),
  ("x/layer2/keeper/lp_swap_redeem_convert.go", "Keeper.SwapDappPoolTx", "k.bk.SendCoinsFromModuleToAccount", "types.ModuleName | addr | sdk.Coins{userReceiveCoin}"),
  ("x/layer2/keeper/msg_server.go", "msgServer.BondDappProposal", "k.keeper.bk.SendCoinsFromAccountToModule", "addr | types.ModuleName | sdk.Coins{msg.Bond}"),
  ("x/layer2/keeper/msg_server.go", "msgServer.CreateDappProposal", "k.keeper.bk.SendCoinsFromAccountToModule", "addr | types.ModuleName | sdk.Coins{msg.Bond}"),
  ("x/layer2/keeper/msg_server.go", "msgServer.JoinDappVerifierWithBond", "k.keeper.bk.SendCoinsFromAccountToModule", "addr | types.ModuleName | verifierBondCoins"),
  ("x/layer2/keeper/msg_server.go", "msgServer.MintBurnTx", "k.keeper.bk.SendCoinsFromAccountToModule", "sender | types.ModuleName | sdk.Coins{burnCoin}"),
  ("x/layer2/keeper/msg_server.go", "msgServer.MintBurnTx", "k.keeper.tk.BurnCoins", "types.ModuleName | sdk.Coins{burnCoin}"),
  ("x/layer2/keeper/msg_server.go", "msgServer.MintCreateFtTx", "k.keeper.bk.SendCoinsFromAccountToModule", "sender | types.ModuleName | sdk.Coins{fee}"),
  ("x/layer2/keeper/msg_server.go", "msgServer.MintCreateFtTx", "k.keeper.tk.BurnCoins", "types.ModuleName | sdk.Coins{fee}"),
  ("x/layer2/keeper/msg_server.go", "msgServer.MintCreateNftTx", "k.keeper.bk.SendCoinsFromAccountToModule", "sender | types.ModuleName | sdk.Coins{fee}"),
  ("x/layer2/keeper/msg_server.go", "msgServer.MintCreateNftTx", "k.keeper.tk.BurnCoins", "types.ModuleName | sdk.Coins{fee}"),
  ("x/layer2/keeper/msg_server.go", "msgServer.MintIssueTx", "k.keeper.bk.SendCoinsFromAccountToModule", "sender | types.ModuleName | feeCoins"),
  ("x/layer2/keeper/msg_server.go", "msgServer.MintIssueTx", "k.keeper.bk.SendCoins", "sender | owner | feeCoins"),
  ("x/layer2/keeper/msg_server.go", "msgServer.MintIssueTx", "k.keeper.tk.MintCoins", "types.ModuleName | sdk.Coins{mintCoin}"),
  ("x/layer2/keeper/msg_server.go", "msgServer.MintIssueTx", "k.keeper.bk.SendCoinsFromModuleToAccount", "types.ModuleName | sender | sdk.Coins{mintCoin}"),
  ("x/layer2/keeper/msg_server.go", "msgServer.ReclaimDappBondProposal", "k.keeper.bk.SendCoinsFromModuleToAccount", "types.ModuleName | addr | sdk.Coins{msg.Bond}"),
  ("x/layer2/keeper/msg_server.go", "msgServer.TransferDappTx", "k.keeper.bk.SendCoinsFromAccountToModule", "sender | types.ModuleName | coins"),
  ("x/layer2/keeper/msg_server.go", "msgServer.TransferDappTx", "k.keeper.bk.SendCoinsFromModuleToAccount", "types.ModuleName | sender | coins"),
  ("x/multistaking/keeper/delegation.go", "Keeper.ClaimRewards", "k.bankKeeper.SendCoinsFromModuleToAccount", "authtypes.FeeCollectorName | delegator | rewards"),
  ("x/multistaking/keeper/delegation.go", "Keeper.ClaimRewardsFromModule", "k.bankKeeper.SendCoinsFromModuleToModule", "authtypes.FeeCollectorName | moduleName | rewards"),
  ("x/multistaking/keeper/delegation.go", "Keeper.Delegate", "k.bankKeeper.SendCoinsFromAccountToModule", "delegator | types.ModuleName | msg.Amounts"),
  ("x/multistaking/keeper/delegation.go", "Keeper.Delegate", "k.tokenKeeper.MintCoins", "minttypes.ModuleName | poolCoins"),
  ("x/multistaking/keeper/delegation.go", "Keeper.Delegate", "k.bankKeeper.SendCoinsFromModuleToAccount", "minttypes.ModuleName | delegator | poolCoins"),
  ("x/multistaking/keeper/delegation.go", "Keeper.IncreasePoolRewards", "k.bankKeeper.SendCoinsFromModuleToAccount", "authtypes.FeeCollectorName | delegator | autoCompoundRewards"),
  ("x/multistaking/keeper/delegation.go", "Keeper.Undelegate", "k.bankKeeper.SendCoinsFromAccountToModule", "delegator | types.ModuleName | poolCoins"),
  ("x/multistaking/keeper/delegation.go", "Keeper.Undelegate", "k.bankKeeper.BurnCoins", "types.ModuleName | poolCoins"),
  ("x/multistaking/keeper/msg_server.go", "msgServer.ClaimMaturedUndelegations", "k.bankKeeper.SendCoinsFromModuleToAccount", "types.ModuleName | delegator | undelegation.Amount"),
  ("x/multistaking/keeper/msg_server.go", "msgServer.ClaimUndelegation", "k.bankKeeper.SendCoinsFromModuleToAccount", "types.ModuleName | delegator | undelegation.Amount"),
  ("x/multistaking/keeper/slash.go", "Keeper.SlashStakingPool", "k.bankKeeper.BurnCoins", "types.ModuleName | burnAmount"),
  ("x/multistaking/keeper/slash.go", "Keeper.SlashStakingPool", "k.bankKeeper.SendCoinsFromModuleToModule", "types.ModuleName | authtypes.FeeCollectorName | treasurySendAmount"),
  ("x/recovery/keeper/msg_server.go", "msgServer.BurnRecoveryTokens", "k.bk.SendCoinsFromModuleToAccount", "types.ModuleName | addr | redeemAmount"),
  ("x/recovery/keeper/msg_server.go", "msgServer.BurnRecoveryTokens", "k.bk.SendCoinsFromAccountToModule", "addr | types.ModuleName | sdk.NewCoins(msg.RrCoin)"),
  ("x/recovery/keeper/msg_server.go", "msgServer.BurnRecoveryTokens", "k.tk.BurnCoins", "types.ModuleName | sdk.NewCoins(msg.RrCoin)"),
  ("x/recovery/keeper/msg_server.go", "msgServer.IssueRecoveryTokens", "k.bk.SendCoinsFromAccountToModule", "addr | types.ModuleName | coins"),
  ("x/recovery/keeper/msg_server.go", "msgServer.IssueRecoveryTokens", "k.tk.MintCoins", "types.ModuleName | recoveryCoins"),
  ("x/recovery/keeper/msg_server.go", "msgServer.IssueRecoveryTokens", "k.bk.SendCoinsFromModuleToAccount", "types.ModuleName | addr | recoveryCoins"),
  ("x/recovery/keeper/msg_server.go", "msgServer.RotateRecoveryAddress", "k.bk.SendCoinsFromAccountToModule", "feePayer | types.ModuleName | RecoveryFee"),
  ("x/recovery/keeper/msg_server.go", "msgServer.RotateRecoveryAddress", "k.bk.SendCoins", "addr | rotatedAddr | balances"),
  ("x/recovery/keeper/rewards.go", "Keeper.ClaimRewards", "k.bk.SendCoinsFromModuleToAccount", "types.ModuleName | delegator | rewards"),
  ("x/spending/keeper/msg_server.go", "msgServer.DepositSpendingPool", "k.bk.SendCoinsFromAccountToModule", "sender | types.ModuleName | msg.Amount"),
  ("x/spending/keeper/spending_pool.go", "Keeper.ClaimSpendingPool", "k.bk.SendCoinsFromModuleToAccount", "types.ModuleName | sender | rewards"),
  ("x/spending/keeper/spending_pool.go", "Keeper.DepositSpendingPoolFromAccount", "k.bk.SendCoinsFromAccountToModule", "addr | types.ModuleName | amounts"),
  ("x/spending/keeper/spending_pool.go", "Keeper.DepositSpendingPoolFromModule", "k.bk.SendCoinsFromModuleToModule", "moduleName | types.ModuleName | amounts"),
  ("x/spending/proposal_handler.go", "ApplySpendingPoolWithdrawProposalHandler.Apply", "a.bk.SendCoinsFromModuleToAccount", "types.ModuleName | beneficiaryAcc | p.Amounts"),
  ("x/tokens/keeper/burn.go", "Keeper.BurnCoins", "k.bankKeeper.BurnCoins", "moduleName | amt"),
  ("x/tokens/keeper/mint.go", "Keeper.MintCoins", "k.bankKeeper.MintCoins", "moduleName | amt"),
  ("x/tokens/keeper/msg_server.go", "msgServer.EthereumTx", "k.keeper.bankKeeper.SendCoins", "sender | sdk.AccAddress(recipient.Bytes()) | sdk.Coins{amount}"),
  ("x/ubi/keeper/ubi.go", "Keeper.ProcessUBIRecord", "k.tk.MintCoins", "minttypes.ModuleName | sdk.NewCoins(coin)")
]

theorem coin_flows_as_reviewed : Sekai.Gen.BankFlows.flows = expectedFlows := by rfl

/-- every burn call site outside the tokens-keeper wrappers (`x/tokens/`, which pass their caller's module on) and
`app/test_helpers.go` names a module account that holds the Burner permission, every such mint call site one that holds the Minter
permission: `Bank.mint` / `Bank.burn` are applied only where the real bank keeper does not panic -/
theorem mint_burn_sites_are_permitted :
    ((Sekai.Gen.BankFlows.mintBurn.filter fun r => !r.1.startsWith "x/tokens/" && !r.1.startsWith "app/").all fun r =>
      (Sekai.App.holders Sekai.Gen.App.maccPerms (if r.2.2.1.endsWith "MintCoins" then "authtypes.Minter" else "authtypes.Burner")).contains
        (Sekai.App.siteModule r.1 r.2.2.2)) = true := by
  rw [Sekai.Chars.mintBurn_eq]
  simp only [List.filter_map, List.all_map, Function.comp_def, Sekai.Chars.Row.str, Sekai.Chars.startsWith_ofList,
    Sekai.Chars.endsWith_ofList, Sekai.Chars.siteModule_ofList]
  -- the strings left are left on purpose: the literals of the statement (decoded once each) and, for each of the 15 rows, the
  -- module name `String.ofList (…) ++ "types.ModuleName"` looked up among the names in `maccPerms`
  decide +kernel

end Sekai.Props.C04
