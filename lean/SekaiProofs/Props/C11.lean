import SekaiProofs.Lemmas.Basket
import SekaiProofs.Lemmas.BasketSwap
import Sekai.Gen.App
import Sekai.Gen.Keys
import SekaiProofs.Lemmas.Keys
/-! # C11 — Basket tokens stay fully backed; mint, burn and swap are value-preserving

About the executable model `Sekai.Basket` (lean/Sekai/Model/Basket.lean: `x/basket` as the code IS); the tie to the Go code
is the correspondence run of `harness/c11.go`.

Clauses: (a) supply = recorded amount and (b) the module holds reserves + surplus, for every history of `Op`s in which no
reconfiguration installs a negative swap fee (`OpOk`; the code does not check it: `negative_fee_counterexample`), from a state with
`Inv` (`inv_run`; every operation that rewrites a record is an instance of `inv_of_update_ge`, mostly through its `=` form); (c) mint ≤ value deposited; (d) burn pro rata is FALSE of the code as it
stands (`BurnProRata`, refuted; `burn_partial` is what holds); (e) swap ≤ value paid in, up to one unit of 10⁻¹⁸ of the out
token per pair (the exact form is refuted); (f) flags, minimums, limits, caps. Then: backing, reconfiguration / slashes,
`EditBasket`, `BasketWithdrawSurplus` and the module's staking rewards, the EndBlocker's pruning, the hook wiring, layer2
mint / burn on a basket denomination. Closed witnesses, and the findings recorded on them, stand beside the theorems. -/
namespace Sekai.Props.C11
open Sekai Sekai.Basket Sekai.Lemmas.Basket

/-! ## the invariant and the one preservation theorem -/

/-- (a) for every basket the bank supply of its denom equals the recorded amount -/
def SupplyEq (s : St) : Prop :=
  ∀ id b, getBasket s.baskets id = some b → s.bank.supplyOf b.denom = b.amount

/-- (b) the module account holds at least the recorded reserves and surplus of all baskets, in every denom -/
def ModuleHolds (s : St) : Prop :=
  ∀ d, owed s.baskets d ≤ s.bank.balOf .module d

/-- well-formedness that every operation keeps (`reconfig`: under `OpOk`): distinct ids have distinct basket denoms (true of `b<id>/<suffix>`),
and the swap fee is not negative (the code never validates it: see `negative_fee_counterexample`) -/
structure WF (s : St) : Prop where
  denom_inj : ∀ id1 id2 b1 b2, getBasket s.baskets id1 = some b1 → getBasket s.baskets id2 = some b2 →
    b1.denom = b2.denom → id1 = id2
  fee_ok : ∀ id b, getBasket s.baskets id = some b → 0 ≤ b.swapFee

structure Inv (s : St) : Prop where
  wf : WF s
  supply_eq : SupplyEq s
  module_holds : ModuleHolds s

def unaccounted (s : St) (d : Denom) : Int := s.bank.balOf .module d - owed s.baskets d

theorem unaccounted_update (s s' : St) (b nb : Basket) (d : Denom)
    (hb : getBasket s.baskets nb.id = some b) (hbs : s'.baskets = setBasket s.baskets nb) :
    unaccounted s' d - unaccounted s d =
      (s'.bank.balOf .module d - owedB nb d) - (s.bank.balOf .module d - owedB b d) := by
  unfold unaccounted
  rw [hbs, owed_setBasket d hb]
  omega

/-- Every operation below is an instance. `≤` rather than `=` in `hun`: an edit may drop a token, whose coins stay in the
module account outside every record. -/
theorem inv_of_update_ge {s s' : St} {id : Nat} {b nb : Basket} {δ : Int}
    (hb : getBasket s.baskets id = some b) (hbs : s'.baskets = setBasket s.baskets nb)
    (hid : nb.id = b.id) (hden : nb.denom = b.denom) (hfee : (0 : Int) ≤ nb.swapFee)
    (hsup : ∀ d, s'.bank.supplyOf d = s.bank.supplyOf d + (if b.denom = d then δ else 0))
    (hamt : nb.amount = b.amount + δ)
    (hun : ∀ d, s.bank.balOf .module d - owedB b d ≤ s'.bank.balOf .module d - owedB nb d)
    (hinv : Inv s) : Inv s' ∧ ∀ d, unaccounted s d ≤ unaccounted s' d := by
  have hbid : b.id = id := getBasket_id hb
  have hun' : ∀ d, unaccounted s d ≤ unaccounted s' d := fun d => by
    have := unaccounted_update s s' b nb d (by rw [hid, hbid]; exact hb) hbs
    have := hun d
    omega
  have hget : ∀ id' b', getBasket s'.baskets id' = some b' →
      (id' = id ∧ b' = nb) ∨ (id' ≠ id ∧ getBasket s.baskets id' = some b') := by
    intro id' b' h'
    rw [hbs, getBasket_setBasket, hid, hbid] at h'
    by_cases e : id = id'
    · rw [if_pos e] at h'; cases h'; exact .inl ⟨e.symm, rfl⟩
    · rw [if_neg e] at h'; exact .inr ⟨fun e' => e e'.symm, h'⟩
  have hold : ∀ id' b', getBasket s'.baskets id' = some b' →
      ∃ b0, getBasket s.baskets id' = some b0 ∧ b0.denom = b'.denom := by
    intro id' b' h'
    rcases hget id' b' h' with ⟨rfl, rfl⟩ | ⟨_, h0⟩
    · exact ⟨b, hb, hden.symm⟩
    · exact ⟨b', h0, rfl⟩
  refine ⟨{ wf := { denom_inj := ?_, fee_ok := ?_ }, supply_eq := ?_, module_holds := ?_ }, hun'⟩
  · intro id1 id2 b1 b2 h1 h2 he
    obtain ⟨c1, g1, d1⟩ := hold _ _ h1
    obtain ⟨c2, g2, d2⟩ := hold _ _ h2
    exact hinv.wf.denom_inj id1 id2 c1 c2 g1 g2 (by rw [d1, d2, he])
  · intro id' b' h'
    rcases hget id' b' h' with ⟨_, rfl⟩ | ⟨_, h0⟩
    · exact hfee
    · exact hinv.wf.fee_ok id' b' h0
  · intro id' b' h'
    rcases hget id' b' h' with ⟨_, rfl⟩ | ⟨e, h0⟩
    · rw [hden, hsup, hamt, hinv.supply_eq id b hb]; simp
    · have hne : ¬ b.denom = b'.denom := fun he => e (hinv.wf.denom_inj id id' b b' hb h0 he).symm
      rw [hsup, hinv.supply_eq id' b' h0]; simp [hne]
  · intro d
    have h1 := hun' d
    have h2 := hinv.module_holds d
    unfold unaccounted at h1
    omega

theorem inv_of_update {s s' : St} {id : Nat} {b nb : Basket} {δ : Int}
    (hb : getBasket s.baskets id = some b) (hbs : s'.baskets = setBasket s.baskets nb)
    (hid : nb.id = b.id) (hden : nb.denom = b.denom) (hfee : 0 ≤ nb.swapFee)
    (hsup : ∀ d, s'.bank.supplyOf d = s.bank.supplyOf d + (if b.denom = d then δ else 0))
    (hamt : nb.amount = b.amount + δ)
    (hun : ∀ d, s'.bank.balOf .module d - owedB nb d = s.bank.balOf .module d - owedB b d)
    (hinv : Inv s) : Inv s' ∧ ∀ d, unaccounted s' d = unaccounted s d :=
  ⟨(inv_of_update_ge hb hbs hid hden hfee hsup hamt (fun d => Int.le_of_eq (hun d).symm) hinv).1, fun d => by
    have := unaccounted_update s s' b nb d (by rw [hid, getBasket_id hb]; exact hb) hbs
    have := hun d
    omega⟩

/-! ## (c) mint -/

/-- (c) the minted amount is the floor of the weighted value deposited: never more than the value.
`mintValue` is Σ amountᵢ·weightᵢ exactly (`NewDecFromInt(a).Mul(w)` does not round), see `mintValue_exact`. -/
theorem mint_le_value (s s' : St) (i id : Nat) (dep : Coins) (h : mint s (.user i) id dep = some s') :
    ∃ b v, getBasket s.baskets id = some b ∧ mintValue b.tokens dep = some v ∧
      s'.bank.balOf (.user i) b.denom - s.bank.balOf (.user i) b.denom + amountOf dep b.denom = Dec.truncInt v ∧
      Dec.truncInt v * Dec.P ≤ v ∧ v < (Dec.truncInt v + 1) * Dec.P := by
  obtain ⟨b, v, toks, hb, hv, e⟩ := mint_effect h
  obtain ⟨hlo, hhi⟩ := Dec.truncInt_bounds e.nonneg
  refine ⟨b, v, hb, hv, ?_, hlo, ?_⟩
  · rw [e.user]; simp only [if_true]; omega
  · rw [Int.add_mul, Int.one_mul]; exact hhi

def exactValue (ts : List Token) : Coins → Int
  | [] => 0
  | c :: cs => (match lookupLast c.denom ts with | some t => c.amount * t.weight | none => 0) + exactValue ts cs

theorem mintValue_exact (ts : List Token) (dep : Coins) (v : Dec.D) (h : mintValue ts dep = some v) :
    v = exactValue ts dep := by
  fun_induction mintValue ts dep generalizing v with
  | case1 => cases h; rfl                        -- no coin left
  | case2 | case3 | case5 => cases h             -- unknown denom / the rest fails / deposits disabled
  | case4 c cs t ht _ v' hv' ih =>               -- `c` is valued at the weight of `t`, the rest is worth `v'`
    cases h
    simp only [exactValue, ht, Dec.ofInt_mul, ih v' hv']

/-- (a)+(b) a successful mint keeps every invariant, and the module balance moves exactly with reserves + surplus -/
theorem inv_mint {s s' : St} {i id : Nat} {dep : Coins} (h : mint s (.user i) id dep = some s') (hinv : Inv s) :
    Inv s' ∧ ∀ d, unaccounted s' d = unaccounted s d := by
  obtain ⟨b, v, toks, hb, _, e⟩ := mint_effect h
  refine inv_of_update (δ := Dec.truncInt v) (hb := hb) (hbs := e.baskets) (hid := rfl) (hden := rfl)
    (hfee := hinv.wf.fee_ok id b hb) (hsup := e.supply) (hamt := rfl) (hun := fun d => ?_) hinv
  simp only [owedB, e.reserves, e.module]; omega

/-! ## (d) burn -/

/-- (a)+(b) a successful burn keeps every invariant, and the module balance moves exactly with the reserves -/
theorem inv_burn {s s' : St} {i id : Nat} {c : Coin} (h : burn s (.user i) id c = some s') (hinv : Inv s) :
    Inv s' ∧ ∀ d, unaccounted s' d = unaccounted s d := by
  obtain ⟨b, toks, wc, hb, e⟩ := burn_effect h
  refine inv_of_update (δ := -c.amount) (hb := hb) (hbs := e.baskets) (hid := rfl) (hden := rfl)
    (hfee := hinv.wf.fee_ok id b hb) (hsup := fun d => ?_) (hamt := by simp only; omega) (hun := fun d => ?_) hinv
  · rw [e.supply]; split <;> omega
  · simp only [owedB, e.reserves, e.module]; omega

/-- the FULL statement of pro-rata redemption: burning `burn` of a supply of `supplyBefore` returns at most that
fraction of every reserve. It is FALSE of the code as written (`burn_pro_rata_counterexample`). -/
def BurnProRata : Prop :=
  ∀ (s s' : St) (i id : Nat) (c : Coin) (b : Basket) (d : Denom),
    getBasket s.baskets id = some b → NonNeg b.tokens → s.bank.supplyOf b.denom = b.amount → d ≠ b.denom →
    burn s (.user i) id c = some s' →
    (s'.bank.balOf (.user i) d - s.bank.balOf (.user i) d) * s.bank.supplyOf b.denom ≤ c.amount * reserveOf b.tokens d

/-- (d) what DOES hold for the code as written: the burner never receives more than the reserve, and at most the
fraction burn / (supply − burn) of it — measured against the supply AFTER the burn — plus the half-even rounding
of the portion at 10⁻¹⁸ (`reserve/10¹⁸` base units). -/
theorem burn_partial (s s' : St) (i id : Nat) (c : Coin) (b : Basket) (d : Denom)
    (hb : getBasket s.baskets id = some b) (hn : NonNeg b.tokens) (hd : d ≠ b.denom)
    (h : burn s (.user i) id c = some s') :
    let out := s'.bank.balOf (.user i) d - s.bank.balOf (.user i) d
    let supplyAfter := s.bank.supplyOf b.denom - c.amount
    0 ≤ out ∧ out ≤ reserveOf b.tokens d ∧ 0 < supplyAfter ∧
    out * Dec.P * supplyAfter ≤ reserveOf b.tokens d * (c.amount * Dec.P + supplyAfter) := by
  obtain ⟨b', toks, wc, hb', e⟩ := burn_effect h
  rw [hb] at hb'; cases hb'
  have hne := e.nonempty
  rw [e.withdrawn] at hne
  obtain ⟨hsa, hbound⟩ := withdraw_portion c.amount _ b.tokens e.pos e.supply_ne hn hne
  obtain ⟨h0, hfrac⟩ := hbound d
  rw [← e.withdrawn] at h0 hfrac
  have hle := reserveOf_nonneg toks (e.nonNeg hn) d
  rw [e.reserves] at hle
  have hout : s'.bank.balOf (.user i) d - s.bank.balOf (.user i) d = amountOf wc d := by
    rw [e.user, if_neg fun e => hd e.symm]; omega
  simp only
  rw [← e.denom, hout]
  exact ⟨h0, by omega, hsa, hfrac⟩

/-! ## (e) swap -/

/-- (a)+(b) a successful swap keeps every invariant; fees and slippage are booked to the surplus coin by coin -/
theorem inv_swap {s s' : St} {i id : Nat} {pairs : List (Coin × Denom)} (h : swap s (.user i) id pairs = some s')
    (hinv : Inv s) : Inv s' ∧ ∀ d, unaccounted s' d = unaccounted s d := by
  obtain ⟨b, toks, sur, fin, hb, e⟩ := swap_effect h
  have hfee := hinv.wf.fee_ok id b hb
  exact inv_of_update (δ := 0) (hb := hb) (hbs := e.baskets) (hid := rfl) (hden := rfl) (hfee := hfee)
    (hsup := fun d => by rw [e.supply]; simp) (hamt := by simp) (hun := e.books hfee) hinv

/-- (e) the arithmetic of one pair, for all inputs: the amount credited to the reserve is at most the amount paid in
(the difference is the fee), and the out amount is worth at most the net amount paid in, up to ONE unit of 10⁻¹⁸ of
the out token (`Quo` rounds half-even; see `swap_exact_counterexample`). -/
theorem quote_le_value (fee : Dec.D) (ts : List Token) (c : Coin) (o : Denom) (q : Quote) (ti to : Token)
    (hq : quote fee ts c o = some q) (hi : lookupLast c.denom ts = some ti) (ho : lookupLast o ts = some to)
    (hfee : (0 : Int) ≤ fee) (hc : 0 ≤ c.amount) (hwi : (0 : Int) ≤ ti.weight) (hwo : (0 : Int) < to.weight)
    (hsa : 0 ≤ q.swapAmount) :
    q.swapAmount ≤ c.amount ∧ q.fee = c.amount - q.swapAmount ∧
    q.out * to.weight * Dec.P ≤ q.swapAmount * ti.weight * Dec.P + to.weight := by
  obtain ⟨ti', to', ok⟩ := quote_some hq
  obtain rfl : ti' = ti := Option.some.inj (ok.tokIn.symm.trans hi)
  obtain rfl : to' = to := Option.some.inj (ok.tokOut.symm.trans ho)
  refine ⟨?_, ok.fee, ?_⟩
  · rw [ok.swapAmount]; exact Dec.truncInt_mul_one_sub_le hfee hc
  · rw [ok.out]; exact quote_out_value_le _ _ _ hsa hwi hwo

/-- (e) what the sender of a successful swap receives in denom `d` (balance change plus what was paid in) is
non-negative and at most the sum of the quoted out amounts for `d` (the slippage fee only lowers it); each quote
obeys `quote_le_value`. -/
theorem swap_le_value (s s' : St) (i id : Nat) (pairs : List (Coin × Denom)) (b : Basket)
    (hb : getBasket s.baskets id = some b) (h : swap s (.user i) id pairs = some s') (d : Denom) :
    let received := s'.bank.balOf (.user i) d - s.bank.balOf (.user i) d + insOf pairs d
    0 ≤ received ∧ received ≤ outsOf b.swapFee b.tokens pairs d := by
  obtain ⟨b', toks, sur, fin, hb', e⟩ := swap_effect h
  rw [hb] at hb'; cases hb'
  simp only
  have := e.received d
  rw [e.user]
  omega

/-! ## (f) flags, minimums, limits, caps -/

/-- a mint that succeeds: mints were enabled, every deposited denom is a token of the basket with deposits enabled,
the minted amount is at least `mints_min`, the total registered for the period (this mint included) is at most
`mints_max`, and the token cap holds for the new reserves -/
theorem mint_respects_limits (s s' : St) (i id : Nat) (dep : Coins) (h : mint s (.user i) id dep = some s') :
    ∃ b nb v, getBasket s.baskets id = some b ∧ getBasket s'.baskets id = some nb ∧ mintValue b.tokens dep = some v ∧
      b.mintsDisabled = false ∧
      (∀ c ∈ dep, ∃ t, lookupLast c.denom b.tokens = some t ∧ t.deposits = true) ∧
      b.mintsMin ≤ Dec.truncInt v ∧
      periodSum id s'.now b.limitsPeriod s'.mintH ≤ b.mintsMax ∧
      capOk nb.tokensCap nb.tokens = true := by
  obtain ⟨b, v, toks, _, _, _, ok, rfl⟩ := mint_some h
  exact ⟨b, _, v, ok.get, getBasket_setBasket_self ok.get rfl, ok.value, ok.enabled,
    mintValue_deposits_enabled ok.value, ok.min, ok.max, ok.cap⟩

/-- a burn that succeeds: burns were enabled, the amount is at least `burns_min`, the period total is at most
`burns_max`, the burnt coin is the basket's own denom, and the cap holds afterwards -/
theorem burn_respects_limits (s s' : St) (i id : Nat) (c : Coin) (h : burn s (.user i) id c = some s') :
    ∃ b nb, getBasket s.baskets id = some b ∧ getBasket s'.baskets id = some nb ∧
      b.burnsDisabled = false ∧ c.denom = b.denom ∧ b.burnsMin ≤ c.amount ∧
      periodSum id s'.now b.limitsPeriod s'.burnH ≤ b.burnsMax ∧
      capOk nb.tokensCap nb.tokens = true := by
  obtain ⟨b, toks, _, _, _, _, ok, rfl⟩ := burn_some h
  exact ⟨b, _, ok.get, getBasket_setBasket_self ok.get rfl, ok.enabled, ok.denom, ok.min, ok.max, ok.cap⟩

/-- every withdrawn coin comes from a token with withdraws enabled -/
theorem burn_withdraws_enabled (portion : Dec.D) (ts : List Token) :
    ∀ c ∈ withdrawCoins portion ts, ∃ t ∈ ts, t.denom = c.denom ∧ t.withdraws = true := by
  fun_induction withdrawCoins portion ts with
  | case1 => exact fun _ hc => nomatch hc                 -- no token left
  | case2 t ts rest hw w _ ih =>                          -- `t` has withdraws enabled and pays `w > 0`
    exact List.forall_mem_cons.mpr ⟨⟨t, List.mem_cons_self, rfl, hw⟩,
      fun c hc => (ih c hc).imp fun _ ht' => ⟨List.mem_cons_of_mem _ ht'.1, ht'.2⟩⟩
  | case3 t ts rest _ w _ ih | case4 t ts rest _ ih =>    -- `t` pays nothing: `w ≤ 0` / withdraws disabled
    exact fun c hc => (ih c hc).imp fun _ ht' => ⟨List.mem_cons_of_mem _ ht'.1, ht'.2⟩

/-- a swap that succeeds: swaps were enabled; for every pair both tokens have swaps enabled and the pair's value is
at least `swaps_min`; the period total after the last pair is at most `swaps_max`; the cap holds afterwards -/
theorem swap_respects_limits (s s' : St) (i id : Nat) (pairs : List (Coin × Denom)) (h : swap s (.user i) id pairs = some s') :
    ∃ b nb, getBasket s.baskets id = some b ∧ getBasket s'.baskets id = some nb ∧
      b.swapsDisabled = false ∧
      (∀ p ∈ pairs, ∃ ti to q, (lookupLast p.1.denom b.tokens).map static = some (static ti) ∧
          (lookupLast p.2 b.tokens).map static = some (static to) ∧ ti.swaps = true ∧ to.swaps = true ∧
          quote b.swapFee b.tokens p.1 p.2 = some q ∧ b.swapsMin ≤ q.swapValue) ∧
      (pairs ≠ [] → periodSum id s'.now b.limitsPeriod s'.swapH ≤ b.swapsMax) ∧
      capOk nb.tokensCap nb.tokens = true := by
  obtain ⟨b, old, acc, slip, fin0, bank2, slipAmts, ok, rfl⟩ := swap_some h
  have hid := getBasket_id ok.get
  obtain ⟨l1, l2⟩ := swapPairs_respects_limits ok.loop
  exact ⟨b, _, ok.get, getBasket_setBasket_self ok.get rfl, ok.enabled, l1, fun hne => hid ▸ l2 hne, ok.cap⟩

/-! ## reconfiguration; all histories -/

/-- a slash of a token weight / an edit of the configuration that keeps recorded amounts, token set, surplus, id and
suffix keeps every invariant (the new swap fee must not be negative) -/
theorem inv_reconfig {s s' : St} {id : Nat} {cfg : Basket} (h : reconfig s id cfg = some s')
    (hfee : (0 : Int) ≤ cfg.swapFee) (hinv : Inv s) : Inv s' ∧ ∀ d, unaccounted s' d = unaccounted s d := by
  obtain ⟨b, hb, rfl⟩ := reconfig_some h
  exact inv_of_update (δ := 0) (hb := hb)
    (nb := { cfg with id := b.id, suffix := b.suffix, amount := b.amount, surplus := b.surplus, tokens := retok b.tokens cfg.tokens })
    (hbs := rfl) (hid := rfl) (hden := rfl) (hfee := hfee) (hsup := fun d => by simp) (hamt := by simp)
    (hun := fun d => by simp only [owedB, reserveOf_retok]) hinv

/-- side condition on histories: a reconfiguration must not install a negative swap fee -/
def OpOk : Op → Prop
  | .reconfig _ cfg => (0 : Int) ≤ cfg.swapFee
  | _ => True

theorem inv_step (s : St) (op : Op) (hok : OpOk op) (hinv : Inv s) :
    Inv (step s op) ∧ ∀ d, unaccounted (step s op) d = unaccounted s d := by
  refine step_cases (P := fun t => Inv t ∧ ∀ d, unaccounted t d = unaccounted s d) ⟨hinv, fun _ => rfl⟩ fun s' hr => ?_
  cases op with
  | mint a id dep => exact inv_mint hr hinv
  | burn a id c => exact inv_burn hr hinv
  | swap a id ps => exact inv_swap hr hinv
  | time t =>
    simp only [Basket.apply] at hr
    cases hr
    -- `Inv` reads only `baskets` and `bank`, but `Inv { s with now := t }` is another type than `Inv s`: rebuilt field by field
    exact ⟨{ wf := { denom_inj := hinv.wf.denom_inj, fee_ok := hinv.wf.fee_ok }, supply_eq := hinv.supply_eq,
             module_holds := hinv.module_holds }, fun _ => rfl⟩
  | reconfig id cfg => exact inv_reconfig hr hok hinv

/-- (a)+(b) for ALL histories of mints, burns and swaps by any holders with any amounts, interleaved with time steps,
weight changes and configuration edits: supply = recorded amount for every basket, the module holds reserves +
surplus, and the module balance outside reserves and surplus never changes (no coin leaves the books) — provided no
configuration edit installs a negative swap fee (`hok`). -/
theorem inv_run (ops : List Op) (s : St) (hok : ∀ op ∈ ops, OpOk op) (hinv : Inv s) :
    Inv (run s ops) ∧ ∀ d, unaccounted (run s ops) d = unaccounted s d := by
  induction ops generalizing s with
  | nil => exact ⟨hinv, fun _ => rfl⟩
  | cons op ops ih =>
    obtain ⟨hop, hops⟩ := List.forall_mem_cons.mp hok
    obtain ⟨h1, h2⟩ := inv_step s op hop hinv
    obtain ⟨h3, h4⟩ := ih (step s op) hops h1
    exact ⟨h3, fun d => by unfold run; rw [h4, h2]⟩

theorem supply_eq_amount (ops : List Op) (s : St) (hok : ∀ op ∈ ops, OpOk op) (hinv : Inv s) :
    SupplyEq (run s ops) := (inv_run ops s hok hinv).1.supply_eq

theorem module_holds_reserves_and_surplus (ops : List Op) (s : St) (hok : ∀ op ∈ ops, OpOk op) (hinv : Inv s) :
    ModuleHolds (run s ops) := (inv_run ops s hok hinv).1.module_holds

/-! ## closed witnesses -/

def big : Int := 1000000000

/-- basket `b1/usd` over `ukex` at weight 1 -/
def wCfg : Basket :=
  { id := 0, suffix := "usd", amount := 0, swapFee := 0, slippageFeeMin := 0, tokensCap := Dec.one, limitsPeriod := 86400,
    mintsMin := 1, mintsMax := big, mintsDisabled := false, burnsMin := 1, burnsMax := big, burnsDisabled := false,
    swapsMin := 1, swapsMax := big, swapsDisabled := false,
    tokens := [⟨"ukex", Dec.one, 0, true, true, true⟩], surplus := [] }
def w0 : St := { bank := { bal := [((.user 1, "ukex"), 1000000), ((.user 2, "ukex"), 1000000)] }, now := 1700000006 }
def w1 : St := match create w0 wCfg with | some s => s | none => w0
def wOps : List Op := [.mint 1 1 [⟨"ukex", 1000⟩], .mint 2 1 [⟨"ukex", 1000⟩]]
def wS : St := run w1 wOps

theorem inv_w1 : Inv w1 := by
  have hbs : w1.baskets = [{ wCfg with id := 1 }] := by decide +kernel
  have hg : ∀ id b, getBasket w1.baskets id = some b → id = 1 ∧ b = { wCfg with id := 1 } := by
    intro id b h
    rw [hbs] at h
    unfold getBasket at h
    split at h
    · rename_i hid; cases h; exact ⟨hid.symm, rfl⟩
    · cases h
  refine { wf := { denom_inj := ?_, fee_ok := ?_ }, supply_eq := ?_, module_holds := ?_ }
  · intro id1 id2 b1 b2 h1 h2 _
    rw [(hg id1 b1 h1).1, (hg id2 b2 h2).1]
  · intro id b h
    rw [(hg id b h).2]; decide
  · intro id b h
    rw [(hg id b h).2]; decide
  · intro d
    rw [hbs]
    show owedB { wCfg with id := 1 } d + 0 ≤ AMap.get w0.bank.bal (Acct.module, d)
    simp only [owedB, reserveOf, amountOf, wCfg, w0, AMap.get]
    split <;> simp

instance : DecidablePred OpOk
  | .reconfig _ cfg => inferInstanceAs (Decidable ((0 : Int) ≤ cfg.swapFee))
  | .mint .. | .burn .. | .swap .. | .time _ => inferInstanceAs (Decidable True)

theorem wOps_ok : ∀ op ∈ wOps, OpOk op := by decide

theorem inv_wS : Inv wS := (inv_run wOps w1 wOps_ok inv_w1).1

example : Inv wS ∧ (getBasket wS.baskets 1).map (·.amount) = some 2000 := ⟨inv_wS, by decide +kernel⟩

example : SupplyEq wS := supply_eq_amount wOps w1 wOps_ok inv_w1
example : ModuleHolds wS := module_holds_reserves_and_surplus wOps w1 wOps_ok inv_w1

/-- a slash in the history: the weight is halved, as `AfterSlashStakingPool` would do -/
def wOps2 : List Op :=
  wOps ++ [.reconfig 1 { wCfg with tokens := [⟨"ukex", Dec.half, 0, true, true, true⟩] }, .time 1700000100, .burn 2 1 ⟨"b1/usd", 500⟩]
example : Inv (run w1 wOps2) ∧
    (getBasket (run w1 wOps2).baskets 1).map (fun b => (b.amount, b.tokens.map (fun t => (t.weight, t.amount)))) =
      some (1500, [(Dec.half, 1334)]) :=
  ⟨(inv_run wOps2 w1 (by decide) inv_w1).1, by decide +kernel⟩

def wOpsLim : List Op := wOps ++ [.mint 1 1 [⟨"ukex", 1⟩]]
/-- the limit at the boundary: total = `mints_max` passes, one more unit is rejected until the period is over -/
example :
    let s0 : St := match create w0 { wCfg with mintsMax := 2000 } with | some s => s | none => w0
    (getBasket (run s0 wOps).baskets 1).map (·.amount) = some 2000 ∧
    (Basket.apply (run s0 wOps) (.mint 1 1 [⟨"ukex", 1⟩])).isSome = false ∧
    (Basket.apply (run s0 (wOps ++ [.time (1700000006 + 86401)])) (.mint 1 1 [⟨"ukex", 1⟩])).isSome = true := by decide

example : (mint (step w1 (.mint 1 1 [⟨"ukex", 1000⟩])) (.user 2) 1 [⟨"ukex", 1000⟩]).map
    (fun s' => s'.bank.balOf (.user 2) "b1/usd") = some 1000 := by decide

/-! ## findings on the witnesses -/

/-- the holder of HALF the supply (1000 of 2000) burns it … and receives the WHOLE reserve of 2000 ukex
(`burn_pro_rata_counterexample`) -/
def wBurn : Option St := burn wS (.user 1) 1 ⟨"b1/usd", 1000⟩

/-- (d) the full pro-rata statement is false of the code as written: finding `C11/burn/supply-read-after-burn` -/
theorem burn_pro_rata_counterexample : ¬ BurnProRata := by
  intro H
  obtain ⟨s', hb, hout⟩ := Option.map_eq_some_iff.mp
    (show wBurn.map (fun s' => s'.bank.balOf (.user 1) "ukex" - wS.bank.balOf (.user 1) "ukex") = some 2000 by decide)
  obtain ⟨b, hgb, hbv⟩ := Option.map_eq_some_iff.mp
    (show (getBasket wS.baskets 1).map (fun b => (b.tokens, b.denom, b.amount)) =
      some ([⟨"ukex", Dec.one, 2000, true, true, true⟩], "b1/usd", 2000) by decide +kernel)
  obtain ⟨ht, hd, ha⟩ : b.tokens = _ ∧ b.denom = _ ∧ b.amount = _ := by simpa only [Prod.mk.injEq] using hbv
  have hsup : wS.bank.supplyOf b.denom = b.amount := inv_wS.supply_eq 1 b hgb
  have := H wS s' 1 1 ⟨"b1/usd", 1000⟩ b "ukex" hgb
    (by rw [ht]; exact List.forall_mem_cons.mpr ⟨by decide, fun _ h => nomatch h⟩)
    hsup (by rw [hd]; decide) hb
  rw [hout, hsup, ha, ht] at this
  revert this
  decide

/-- non-vacuity of `burn_partial` -/
example : wBurn.isSome = true ∧ NonNeg [(⟨"ukex", Dec.one, 2000, true, true, true⟩ : Token)] :=
  ⟨by decide +kernel, List.forall_mem_cons.mpr ⟨by decide, fun _ h => nomatch h⟩⟩

/-- the supply (recorded amount) is at most the reserves valued at the basket weights -/
def Backed (b : Basket) : Prop := b.amount * Dec.P ≤ totalVal b.tokens

instance (b : Basket) : Decidable (Backed b) := by unfold Backed; exact inferInstance

/-- "fully backed" is NOT preserved by a burn on the current code: before the witness burn the basket is exactly
backed (2000 tokens, reserves worth 2000), after it 1000 tokens are outstanding against an empty reserve. -/
theorem backed_counterexample :
    (getBasket wS.baskets 1).map (fun b => decide (Backed b)) = some true ∧
    (wBurn.bind (fun s' => getBasket s'.baskets 1)).map (fun b => (decide (Backed b), b.amount, totalVal b.tokens)) =
      some (false, 1000, 0) := by decide

/-- a mint keeps a basket fully backed: the reserves' value grows by the whole deposit value, the supply by its floor -/
theorem mint_preserves_backed (s s' : St) (i id : Nat) (dep : Coins) (b : Basket)
    (hb : getBasket s.baskets id = some b) (hbk : Backed b) (h : mint s (.user i) id dep = some s') :
    ∃ nb, getBasket s'.baskets id = some nb ∧ Backed nb := by
  obtain ⟨b', v, toks, hb', _, e⟩ := mint_effect h
  rw [hb] at hb'; cases hb'
  refine ⟨_, by rw [e.baskets]; exact getBasket_setBasket_self hb rfl, ?_⟩
  unfold Backed at hbk ⊢
  simp only
  rw [e.value, Int.add_mul]
  have := (Dec.truncInt_bounds e.nonneg).1
  omega

example : (getBasket (step w1 (.mint 1 1 [⟨"ukex", 1000⟩])).baskets 1).map (fun b => decide (Backed b)) = some true := by decide

/-- the last holder can never redeem: burning the entire remaining supply divides by a zero supply (a panic in Go) -/
theorem burn_entire_supply_rejected :
    (wBurn.bind (fun s' => burn s' (.user 2) 1 ⟨"b1/usd", 1000⟩)).isSome = false := by decide

def xToks : List Token :=
  [⟨"ukex", Dec.one, 1000, true, true, true⟩, ⟨"ueth", 2 * Dec.one + 1, 1000, true, true, true⟩]

/-- 2 ukex (value 2) buy 1 ueth (value 2.000000000000000001): `Quo` rounds 0.9999999999999999995 up to 1 -/
theorem swap_exact_counterexample :
    ¬ (∀ (fee : Dec.D) (ts : List Token) (c : Coin) (o : Denom) (q : Quote) (ti to : Token),
        quote fee ts c o = some q → lookupLast c.denom ts = some ti → lookupLast o ts = some to →
        (0 : Int) ≤ fee → 0 ≤ c.amount → (0 : Int) ≤ ti.weight → (0 : Int) < to.weight → 0 ≤ q.swapAmount →
        q.out * to.weight ≤ q.swapAmount * ti.weight) := by
  intro H
  obtain ⟨q, hb, hq⟩ := Option.map_eq_some_iff.mp
    (show (quote 0 xToks ⟨"ukex", 2⟩ "ueth").map (fun q => (q.swapAmount, q.out)) = some (2, 1) by decide +kernel)
  obtain ⟨h1, h2⟩ : q.swapAmount = 2 ∧ q.out = 1 := by simpa only [Prod.mk.injEq] using hq
  have := H 0 xToks ⟨"ukex", 2⟩ "ueth" q ⟨"ukex", Dec.one, 1000, true, true, true⟩
    ⟨"ueth", 2 * Dec.one + 1, 1000, true, true, true⟩ hb (by decide) (by decide) (by decide) (by decide) (by decide) (by decide)
    (by rw [h1]; decide)
  rw [h1, h2] at this
  revert this
  decide

/-- non-vacuity of `quote_le_value`: the same quote satisfies every hypothesis and the bound WITH the slack -/
example : (quote 0 xToks ⟨"ukex", 2⟩ "ueth").map
    (fun q => decide (q.out * (2 * Dec.one + 1) * Dec.P ≤ q.swapAmount * Dec.one * Dec.P + (2 * Dec.one + 1))) = some true := by decide

/-- `nf…`: the witness for a NEGATIVE swap FEE (−0.5) -/
def nfCfg : Basket := { wCfg with swapFee := -(Dec.half), tokens :=
  [⟨"ukex", Dec.one, 0, true, true, true⟩, ⟨"ueth", Dec.one, 0, true, true, true⟩] }
def nf0 : St := { bank := { bal := [((.user 1, "ukex"), 1000000), ((.user 1, "ueth"), 1000000)] }, now := 1700000006 }
def nf1 : St := run (match create nf0 nfCfg with | some s => s | none => nf0) [.mint 1 1 [⟨"ueth", 1000⟩, ⟨"ukex", 1000⟩]]

/-- without `WF.fee_ok` the books do not balance: with swap fee −0.5 a swap of 100 ukex credits 150 ukex to the
reserve while the module received 100 — the module ends up holding 50 ukex less than reserves + surplus -/
theorem negative_fee_counterexample :
    ¬ (∀ (s s' : St) (i id : Nat) (pairs : List (Coin × Denom)) (d : Denom),
        swap s (.user i) id pairs = some s' → unaccounted s' d = unaccounted s d) := by
  intro H
  obtain ⟨s', hb, h1⟩ := Option.map_eq_some_iff.mp
    (show (swap nf1 (.user 1) 1 [(⟨"ukex", 100⟩, "ueth")]).map
      (fun s' => unaccounted s' "ukex" - unaccounted nf1 "ukex") = some (-50) by decide +kernel)
  have h2 := H nf1 s' 1 1 _ "ukex" hb
  omega

/-- non-vacuity of the swap theorems: with fee 0.01 the same swap succeeds and the sender receives 89 (99 quoted, 10 kept as slippage fee) -/
example : (swap (run (match create nf0 { nfCfg with swapFee := 10000000000000000 } with | some s => s | none => nf0)
      [.mint 1 1 [⟨"ueth", 1000⟩, ⟨"ukex", 1000⟩]]) (.user 1) 1 [(⟨"ukex", 100⟩, "ueth")]).map
    (fun s' => (s'.bank.balOf (.user 1) "ueth", unaccounted s' "ukex")) = some (999089, 0) := by decide

/-! ## `EditBasket` -/

/-- `EditBasket` as coded keeps every invariant PROVIDED the proposal carries the recorded amount and the old suffix
(and a non-negative swap fee), and the recorded token amounts of the old record are not negative (`NonNeg old.tokens`, no part of
`Inv`); tokens may be added, dropped or re-weighted (a dropped token's reserve stays in the
module account, outside every record). Without the first proviso: `edit_amount_counterexample`. -/
theorem edit_partial (s s' : St) (cfg old : Basket) (hold : getBasket s.baskets cfg.id = some old)
    (hamt : cfg.amount = old.amount) (hsuf : cfg.suffix = old.suffix) (hfee : (0 : Int) ≤ cfg.swapFee)
    (hn : NonNeg old.tokens) (h : edit s cfg = some s') (hinv : Inv s) :
    Inv s' ∧ ∀ d, unaccounted s d ≤ unaccounted s' d := by
  obtain ⟨old', ok, rfl⟩ := edit_some h
  obtain rfl : old = old' := Option.some.inj (hold.symm.trans ok.get)
  have hid : old.id = cfg.id := getBasket_id hold
  refine inv_of_update_ge (δ := 0) (hb := hold)
    (nb := { cfg with surplus := old.surplus, tokens := cfg.tokens.map (carryAmount old.tokens) })
    (hbs := rfl) (hid := hid.symm) (hden := by simp only [Basket.denom, hsuf, hid]) (hfee := hfee)
    (hsup := fun d => by simp) (hamt := by simp only; omega) (hun := fun d => ?_) hinv
  simp only [owedB]
  have := (reserveOf_carryAmount_le old.tokens cfg.tokens hn ok.distinct d).1
  omega

example : (edit wS { wCfg with id := 1, amount := 2000, tokens := [⟨"ukex", Dec.one + Dec.half, 0, true, true, true⟩] }).map
    (fun s' => (getBasket s'.baskets 1).map (fun b => (b.amount, b.tokens.map (fun t => (t.weight, t.amount))))) =
    some (some (2000, [(1500000000000000000, 2000)])) := by decide

/-- `edit_partial` needs `cfg.amount = old.amount`, and not for nothing: the real `EditBasket` takes `Amount` from the
proposal: editing the witness basket with amount 5 leaves a supply of 2000
against a recorded amount of 5. Finding `C11/edit/amount-from-proposal`. -/
theorem edit_amount_counterexample :
    ¬ (∀ (s s' : St) (cfg : Basket), Inv s → edit s cfg = some s' → SupplyEq s') := by
  intro H
  obtain ⟨s', hb, hw⟩ := Option.map_eq_some_iff.mp
    (show (edit wS { wCfg with id := 1, amount := 5 }).map
      (fun s' => (getBasket s'.baskets 1).map (fun b => (s'.bank.supplyOf b.denom, b.amount))) = some (some (2000, 5)) by decide +kernel)
  obtain ⟨b, hg, hbv⟩ := Option.map_eq_some_iff.mp hw
  obtain ⟨h1, h2⟩ : s'.bank.supplyOf b.denom = 2000 ∧ b.amount = 5 := by simpa only [Prod.mk.injEq] using hbv
  have := H wS s' _ inv_wS hb 1 b hg
  omega

/-! ## `BasketWithdrawSurplus` -/

theorem inv_withdrawSurplus1 {s s' : St} {t : Acct} {id : Nat} (ht : t ≠ .module)
    (h : withdrawSurplus1 s t id = some s') (hinv : Inv s) :
    Inv s' ∧ ∀ d, unaccounted s' d = unaccounted s d := by
  obtain ⟨b, bank', hb, hs, rfl⟩ := withdrawSurplus1_some h
  obtain ⟨_, hsup, hbal⟩ := Bank.send_spec hs
  refine inv_of_update (δ := 0) (hb := hb) (nb := { b with surplus := [] }) (hbs := rfl) (hid := rfl) (hden := rfl)
    (hfee := hinv.wf.fee_ok id b hb) (hsup := fun d => ?_) (hamt := by simp) (hun := fun d => ?_) hinv
  · show bank'.supplyOf d = s.bank.supplyOf d + _
    rw [Bank.supplyOf_eq_of_supply_eq hsup]; split <;> omega
  · show bank'.balOf .module d - owedB { b with surplus := [] } d = s.bank.balOf .module d - owedB b d
    rw [hbal .module d]
    simp only [if_true, if_neg (Ne.symm ht), owedB, amountOf_nil]
    omega

/-- **the whole proposal — whatever ids it lists, repeated ids included — keeps supply = recorded amount, keeps the
module holding reserves + surplus, and takes from the module account exactly what it takes off the records
(`unaccounted` does not move)** -/
theorem withdrawSurplus_preserves (ids : List Nat) (s s' : St) (t : Acct) (ht : t ≠ .module)
    (h : withdrawSurplus s t ids = some s') (hinv : Inv s) :
    Inv s' ∧ ∀ d, unaccounted s' d = unaccounted s d := by
  fun_induction withdrawSurplus s t ids with
  | case1 => cases h; exact ⟨hinv, fun _ => rfl⟩   -- no id left
  | case2 => cases h                               -- the surplus of `id` cannot be paid: the proposal fails
  | case3 s id rest s1 h1 ih =>                    -- `id` is paid (giving `s1`), then the rest
    obtain ⟨hi1, hu1⟩ := inv_withdrawSurplus1 ht h1 hinv
    obtain ⟨hi2, hu2⟩ := ih h hi1
    exact ⟨hi2, fun d => by rw [hu2 d, hu1 d]⟩

/-! ## the EndBlocker's pruning of the limits history -/

/-- **pruning is invisible to the per-period limits**: for the basket the history entry belongs to, and for every
later block time, the period sum over the pruned history equals the one over the full history — as long as the
basket keeps its limits period. (The EndBlocker prunes each basket's OWN prefix only: an implementation that prunes
under another basket's bounds breaks this on the code side and shows in the correspondence.) -/
theorem periodSum_pruneH (bs : List Basket) (b : Basket) (now now' : Nat) (h : AMap (Nat × Nat))
    (hb : bs.find? (fun x => x.id == b.id) = some b) (hle : now ≤ now') :
    periodSum b.id now' b.limitsPeriod (pruneH bs now h) = periodSum b.id now' b.limitsPeriod h := by
  unfold pruneH
  apply periodSum_filter
  intro e _ hc
  have hf : bs.find? (fun x => x.id == e.1.1) = some b := by rw [hc.1]; exact hb
  simp only [hf]
  have : now ≤ e.1.2 + b.limitsPeriod := by omega
  simp [this]

example : periodSum 1 100 60 (pruneH [{ wCfg with id := 1, limitsPeriod := 60 }] 90 [((1, 10), 5), ((1, 50), 7), ((2, 10), 9)])
    = 7 := by decide

/-- … but not once the period is extended: an entry pruned under a 60 s period is missing from the 1000 s window that
an edit introduces afterwards (finding `C11/limits/period-extension-forgets-pruned-history`) -/
theorem period_extension_counterexample :
    ¬ (∀ (bs : List Basket) (b : Basket) (now now' p' : Nat) (h : AMap (Nat × Nat)),
        bs.find? (fun x => x.id == b.id) = some b → now ≤ now' →
        periodSum b.id now' p' (pruneH bs now h) = periodSum b.id now' p' h) := by
  intro H
  have := H [{ wCfg with id := 1, limitsPeriod := 60 }] { wCfg with id := 1, limitsPeriod := 60 } 100 100 1000 [((1, 10), 5)] (by decide) (by decide)
  revert this
  decide

/-- pruning touches neither the baskets nor the bank: supply, reserves and recorded amounts are unchanged -/
theorem endBlock_frame (s : St) : (endBlock s).baskets = s.baskets ∧ (endBlock s).bank = s.bank ∧ (endBlock s).now = s.now :=
  ⟨rfl, rfl, rfl⟩

/-- the limits window is computed through `time.Duration` (int64 nanoseconds): a period of 2^40 s no longer fits
(2^40 * 10^9 ≥ 2^63), periods up to 9 * 10^9 s - the largest the generated configurations use - do. The model keeps
exact integers: beyond the wrap it and the implementation part ways (recorded finding
`C11/limits/period-duration-overflow`, witnessed on the implementation on every run). -/
theorem period_nanos_overflow : (2 ^ 40 : Nat) * 10 ^ 9 ≥ 2 ^ 63 ∧ (9000000000 : Nat) * 10 ^ 9 < 2 ^ 63 := by decide

/-! ## hooks; layer2 mint / burn on a basket denomination -/

/-- the basket keeper's hooks are registered with the slashing and the multistaking keeper: a slashed staking pool is
reported to the basket module (which disables deposits of the affected share token), as the model's `reconfig` op assumes -/
theorem basket_hooks_wired :
    Sekai.Gen.App.hooks.contains ("customSlashingKeeper", "slashingtypes.NewMultiSlashingHooks(app.BasketKeeper.Hooks())") = true ∧
    Sekai.Gen.App.hooks.contains ("multiStakingKeeper", "multistakingtypes.NewMultiStakingHooks(app.BasketKeeper.Hooks())") = true := by
  decide +kernel

/-- `MsgMintIssueTx` never creates basket tokens: refused for every sender and amount -/
theorem l2_issue_refused (s : St) (a : Acct) (c : Coin) : l2Issue s a c = none := rfl

/-- the half of (a) that keeps the basket backed -/
def SupplyLe (s : St) : Prop :=
  ∀ id b, getBasket s.baskets id = some b → s.bank.supplyOf b.denom ≤ b.amount

theorem supplyLe_of_eq {s : St} (h : SupplyEq s) : SupplyLe s := fun id b hb => by rw [h id b hb]; exact Int.le_refl _

/-- a layer2 burn by a user touches no basket record, takes nothing from the module account, and can only LOWER supplies:
the supply stays at most the recorded amount (so it stays covered by the reserves wherever the amount is) -/
theorem l2_burn_keeps_backing (s s' : St) (i : Nat) (c : Coin) (h : l2Burn s (.user i) c = some s')
    (hle : SupplyLe s) (hm : ModuleHolds s) : s'.baskets = s.baskets ∧ SupplyLe s' ∧ ModuleHolds s' := by
  obtain ⟨_, b1, hs, rfl⟩ := l2Burn_some h
  obtain ⟨hsup, _, hbal⟩ := Bank.sub1_spec hs
  refine ⟨rfl, fun id b hb => ?_, fun d => ?_⟩
  · show AMap.get (b1.supply.set c.denom (b1.supplyOf c.denom + -c.amount)) b.denom ≤ _
    rw [Bank.supplyOf_bump, Bank.supplyOf_eq_of_supply_eq hsup]
    have := hle id b hb
    split <;> omega
  · show owed s.baskets d ≤ b1.balOf .module d
    rw [hbal, if_neg (fun e => nomatch e.1), Int.sub_zero]
    exact hm d

/-- … but clause (a) itself - supply EQUAL to the recorded amount - is lost: on the witness state (supply 2000 = amount
2000) a holder burns 400 basket tokens through layer2; the supply is 1600, the record still says 2000
(finding `C11/l2-burn/supply-below-recorded-amount`) -/
theorem l2_burn_supply_eq_counterexample :
    wS.bank.supplyOf "b1/usd" = 2000 ∧ (getBasket wS.baskets 1).map (·.amount) = some 2000 ∧
    (l2Burn wS (.user 1) ⟨"b1/usd", 400⟩).map
      (fun s' => (s'.bank.supplyOf "b1/usd", (getBasket s'.baskets 1).map (·.amount))) = some (1600, some 2000) := by decide

/-! ## the module's staking rewards -/

/-- claiming the basket module's staking rewards and forwarding them to the withdraw target touches no basket record and
leaves the module account's balance of every denomination as it was (what comes in from the fee collector goes out to the
target): reserves and surplus stay covered. When the fee collector cannot pay, the claim fails and nothing is written. -/
theorem rewards_pass_through (s s' : St) (i : Nat) (h : claimModuleRewards s (.user i) = some s') (hi : i ≠ 999999) :
    s'.baskets = s.baskets ∧ s'.bank.supply = s.bank.supply ∧ ∀ d, s'.bank.balOf .module d = s.bank.balOf .module d := by
  obtain ⟨_, rfl⟩ | ⟨b1, b2, h1, h2, rfl⟩ := claimModuleRewards_some h
  · exact ⟨rfl, rfl, fun _ => rfl⟩
  · obtain ⟨_, s1, e1⟩ := Bank.send_spec h1
    obtain ⟨_, s2, e2⟩ := Bank.send_spec h2
    refine ⟨rfl, s2.trans s1, fun d => ?_⟩
    show b2.balOf .module d = _
    rw [e2, e1]
    simp only [feeCollector, reduceCtorEq, if_true, if_false]
    omega

/-! ### Key spaces of the stores this model keeps in separate maps (table `Gen.Keys`; why it matters: `Sekai/Model/Keys.lean`) -/

theorem basket_key_spaces_disjoint : Sekai.Keys.disjoint Sekai.Gen.Keys.stores "basket" = true :=
  Sekai.Keys.disjoint_of_pairwise_apart (by decide +kernel)

end Sekai.Props.C11
