import SekaiProofs.Lemmas.Custody
import SekaiProofs.Lemmas.Keys
import SekaiProofs.Lemmas.Lookup
import SekaiProofs.Lemmas.Chars
import Sekai.Gen.App
import Sekai.Gen.Keys
import Sekai.Model.App
/-! # C17 — Custody: guarded funds leave only with the required approvals

Theorems about `Sekai.Custody` (lean/Sekai/Model/Custody.lean), the executable model of `x/custody` and of
`CustodyDecorator` that the harness (`harness/c17.go`) compares line by line with the real code.

The property as stated is FALSE of the code in several independent ways; the harness replays each closed witness on
the real code (finding keys in the doc strings). Beside the refutations stands what does hold for all states and inputs.
After the transaction loop come the two operations outside it, the recovery rotation and relayed Ethereum transactions (a
further way round custody, shown by a closed witness), and the obligations on generated tables (wiring of the decorator,
key spaces of the store).

Symbolic cryptography: `keyHash : Nat → Key` is an injective constructor (`hash_injective`); nothing else is
assumed about SHA-256. -/

namespace Sekai.Custody

/-- vocabulary of `C17.approve_exact`: the policy maps, the limit-status records and `minReward` are the same -/
def SamePolicy (s s1 : State) : Prop :=
  s1.settings = s.settings ∧ s1.custodians = s.custodians ∧ s1.whitelist = s.whitelist ∧ s1.limits = s.limits ∧
  s1.status = s.status ∧ s1.minReward = s.minReward

end Sekai.Custody

namespace Sekai.Props.C17
open Sekai.Custody

theorem hash_injective {a b : Nat} (h : keyHash a = keyHash b) : a = b := Key.H.inj h

/-- the seven message kinds whose `case` in the decorator compares `sha256(OldKey)` with the stored key -/
def keyCheckedKind : Msg → Bool
  | .create .. | .addCust .. | .rmCust .. | .dropCust .. | .addWl .. | .rmWl .. | .dropWl .. => true
  | _ => false

theorem keyArgsChecked_isSome_iff (m : Msg) : (m.keyArgsChecked).isSome = keyCheckedKind m := by
  cases m <;> rfl

/-- **Key check, exact (partial: signer's own custody enabled, one of the seven kinds).** The decorator lets
the message pass iff `TargetAddress` is empty or equals the signer's `NextController` AND `sha256(OldKey)`
is the stored key. -/
theorem key_checked_iff_partial (s : State) (m : Msg) (st : Settings) (k : KeyArgs)
    (hs : s.settings m.signer = some st) (hen : st.enabled = true) (hk : m.keyArgsChecked = some k) :
    anteSwitch s m = .ok () ↔ (k.target = .empty ∨ k.target = st.next) ∧ keyHash k.old = st.key := by
  rw [anteSwitch_checked hs hen hk]
  exact keyCheck_eq_ok st k

example : ∃ s m st k, s.settings m.signer = some st ∧ st.enabled = true ∧ m.keyArgsChecked = some k ∧
    anteSwitch s m = .ok () :=
  ⟨{ settings := fun a => if a = 1 then some { enabled := true, key := keyHash 7 } else none },
   .dropCust 1 ⟨7, keyHash 8, .empty, .empty⟩, { enabled := true, key := keyHash 7 }, ⟨7, keyHash 8, .empty, .empty⟩,
   by decide, rfl, rfl, rfl⟩

/-- knowledge of the key: when the stored key is the keyHash of `p`, only `OldKey = p` passes -/
theorem key_preimage_partial (s : State) (m : Msg) (st : Settings) (k : KeyArgs) (p : Nat)
    (hs : s.settings m.signer = some st) (hen : st.enabled = true) (hk : m.keyArgsChecked = some k)
    (hp : st.key = keyHash p) (hok : anteSwitch s m = .ok ()) : k.old = p := by
  have := (key_checked_iff_partial s m st k hs hen hk).1 hok
  exact hash_injective (this.2.trans hp)

/-- a key that is not a hash (`Key.raw`) can never be matched: such an account is frozen for the seven kinds -/
theorem raw_key_never_passes (s : State) (m : Msg) (st : Settings) (k : KeyArgs) (n : Nat)
    (hs : s.settings m.signer = some st) (hen : st.enabled = true) (hk : m.keyArgsChecked = some k)
    (hp : st.key = .raw n) : anteSwitch s m ≠ .ok () := by
  intro hok
  have := ((key_checked_iff_partial s m st k hs hen hk).1 hok).2
  rw [hp] at this
  cases this

/-- **Transaction level (partial).** In every ACCEPTED transaction, every message of the seven kinds whose
signer has custody enabled carried the preimage of that signer's key (and an admissible target). -/
theorem accepted_tx_proves_signer_key_partial (s : State) (tx : Tx) (m : Msg) (st : Settings) (k : KeyArgs)
    (hm : m ∈ tx.msgs) (hs : s.settings m.signer = some st) (hen : st.enabled = true)
    (hk : m.keyArgsChecked = some k) (hok : (runTx s tx).2 = .ok) :
    keyHash k.old = st.key ∧ (k.target = .empty ∨ k.target = st.next) := by
  have := (key_checked_iff_partial s m st k hs hen hk).1 (runTx_ok_switch hok m hm)
  exact ⟨this.2, this.1⟩

example : ∃ s tx m st k, m ∈ tx.msgs ∧ s.settings m.signer = some st ∧ st.enabled = true ∧
    m.keyArgsChecked = some k ∧ (runTx s tx).2 = .ok :=
  ⟨{ settings := fun a => if a = 1 then some { enabled := true, key := keyHash 7 } else none },
   ⟨1, 0, 0, [.dropCust 1 ⟨7, keyHash 8, .empty, .empty⟩]⟩, .dropCust 1 ⟨7, keyHash 8, .empty, .empty⟩,
   { enabled := true, key := keyHash 7 }, ⟨7, keyHash 8, .empty, .empty⟩, by simp, by decide, rfl, rfl, rfl⟩

/-- the other kinds: `disable`, `drop` and `confirm` are never examined by the `switch` -/
theorem disable_drop_confirm_never_checked (s : State) (a : Addr) (k : KeyArgs) (b : Addr) (h : HashStr) (pw : Nat) :
    anteSwitch s (.disable a k) = .ok () ∧ anteSwitch s (.drop a k) = .ok () ∧
    anteSwitch s (.confirm a b h pw) = .ok () := by
  refine ⟨?_, ?_, ?_⟩ <;> exact anteSwitch_unchecked rfl rfl (by intros; nofun)

/-- …and Approve / Decline / the three limits messages hit the `case` of ANOTHER message type (their `Type()`
strings are reused), so a signer with custody enabled can never send them; otherwise nothing is checked -/
theorem type_clash_rejected (s : State) (m : Msg) (st : Settings) (hc : m.typeClash = true)
    (hs : s.settings m.signer = some st) : anteSwitch s m = if st.enabled then .error .invType else .ok () := by
  cases he : st.enabled
  · exact anteSwitch_unguarded (.inr ⟨st, hs, he⟩)
  · exact anteSwitch_clash hs he hc

/-- without an enabled custody of its own the signer passes the `switch` with ANY message -/
theorem no_own_custody_no_check (s : State) (m : Msg)
    (h : s.settings m.signer = none ∨ ∃ st, s.settings m.signer = some st ∧ st.enabled = false) :
    anteSwitch s m = .ok () :=
  anteSwitch_unguarded h

/-- **`bank.MsgSend` is blocked (partial: only this message type).** For every state, every transaction
that contains a plain bank send whose signer has custody enabled and a custodian record that is missing
(the decorator panics) or non-empty (tombstones included) is rejected and changes nothing. -/
theorem bank_send_blocked_partial (s : State) (tx : Tx) (a to : Addr) (amt : Coins) (st : Settings)
    (hm : .bankSend a to amt ∈ tx.msgs) (hs : s.settings a = some st) (hen : st.enabled = true)
    (hc : s.custodians a ≠ some []) : ∃ e, runTx s tx = (s, .err e) :=
  bankSend_rejected hm hs (.inl fun h => hc ((bankGuard_ok h).1 hen))

def funded : Bal := fun _ d => if d = 0 then 10000000 else 0

def guardedDemo : State :=
  { settings := fun a => if a = 1 then some { enabled := true, mode := 50, key := keyHash 1 } else none,
    custodians := fun a => if a = 1 then some [(4, true), (5, true)] else none,
    bal := funded }

example : (.bankSend 1 3 [(0, 5)] : Msg) ∈ (⟨1, 200, 0, [.bankSend 1 3 [(0, 5)]]⟩ : Tx).msgs ∧
    guardedDemo.settings 1 = some { enabled := true, mode := 50, key := keyHash 1 } ∧
    guardedDemo.custodians 1 ≠ some [] := by decide

/-- the full statement: NO direct send of a guarded account is accepted -/
def every_direct_send_blocked_full : Prop :=
  ∀ (s : State) (a to : Addr) (amt : Coins) (fee : Nat) (now : Int) (st : Settings) (cs : List (Addr × Bool)),
    s.settings a = some st → st.enabled = true → s.custodians a = some cs → cs ≠ [] →
    (runTx s ⟨a, fee, now, [.bankSend a to amt]⟩).2 ≠ .ok ∧ (runTx s ⟨a, fee, now, [.multiSend a to amt]⟩).2 ≠ .ok

/-- `C17/multisend/ignores-custody`: `MsgMultiSend` of a guarded account (mode 50 %, custodians {4,5}) is
accepted and moves the coins without any approval -/
theorem every_direct_send_blocked_counterexample : ¬ every_direct_send_blocked_full := by
  intro h
  have := (h guardedDemo 1 3 [(0, 123456)] 200 0 _ _ rfl rfl rfl (by decide)).2
  exact this (by decide)

example : ((runTx guardedDemo ⟨1, 200, 0, [.multiSend 1 3 [(0, 123456)]]⟩).1.bal 3 0 = 10123456) ∧
    ((runTx guardedDemo ⟨1, 200, 0, [.multiSend 1 3 [(0, 123456)]]⟩).1.bal 1 0 = 10000000 - 123456 - 200) := by decide

/-- the full statement: the policy of an account with custody enabled changes only in a transaction that
carries the preimage of ITS current key -/
def settings_need_key_full : Prop :=
  ∀ (s : State) (tx : Tx) (a : Addr) (st : Settings), s.settings a = some st → st.enabled = true →
    policy (runTx s tx).1 a ≠ policy s a → ∃ m ∈ tx.msgs, ∃ k, m.keyArgs = some k ∧ keyHash k.old = st.key

theorem single_wrong_key {m0 : Msg} {k0 : KeyArgs} {key : Key} (h0 : m0.keyArgs = some k0) (hne : keyHash k0.old ≠ key) :
    ¬ ∃ m ∈ [m0], ∃ k, m.keyArgs = some k ∧ keyHash k.old = key := by
  intro ⟨m, hm, k, hk, hkey⟩
  cases List.mem_singleton.1 hm
  rw [h0] at hk
  cases hk
  exact hne hkey

/-- `C17/settings/target-address-rewrites-victim`: account 7 (no custody of its own, so the decorator checks
nothing) sends `MsgDropCustodyCustodians{OldKey: wrong, NewKey: its own, TargetAddress: account 1}`: the
victim's custodians are dropped and its key replaced. -/
theorem settings_need_key_counterexample : ¬ settings_need_key_full := fun h =>
  single_wrong_key (m0 := .dropCust 7 ⟨9, .raw 1, .empty, .addr 1⟩) rfl (by decide)
    (h guardedDemo ⟨7, 200, 0, [_]⟩ 1 _ rfl rfl (by decide))

example : policy (runTx guardedDemo ⟨7, 200, 0, [.dropCust 7 ⟨9, .raw 1, .empty, .addr 1⟩]⟩).1 1 =
    ⟨some { enabled := true, mode := 50, key := .raw 1 }, none, none, none⟩ := by decide

/-- the same through the limits messages (which, for a signer WITH custody enabled, are always rejected —
`type_clash_rejected` — so limits can only ever be written this way or while custody is disabled) -/
example : policy (runTx guardedDemo ⟨7, 200, 0, [.addLim 7 0 5 3600000 ⟨9, .raw 2, .empty, .addr 1⟩]⟩).1 1 =
    ⟨some { enabled := true, mode := 50, key := .raw 2 }, some [(4, true), (5, true)], none, some [(0, ⟨5, 3600000⟩)]⟩ := by
  decide

/-- the full statement restricted to the account's OWN messages about itself -/
def own_settings_need_key_full : Prop :=
  ∀ (s : State) (tx : Tx) (a : Addr) (st : Settings), s.settings a = some st → st.enabled = true →
    (∀ m ∈ tx.msgs, m.signer = a ∧ ∀ k, m.keyArgs = some k → k.target = .empty) →
    policy (runTx s tx).1 a ≠ policy s a → ∃ m ∈ tx.msgs, ∃ k, m.keyArgs = some k ∧ keyHash k.old = st.key

/-- `C17/settings/disable-drop-not-key-checked`: `MsgDisableCustodyRecord` (and `MsgDropCustodyRecord`) of the
account itself with a wrong key is accepted; afterwards nothing is guarded any more. -/
theorem own_settings_need_key_counterexample : ¬ own_settings_need_key_full := fun h =>
  single_wrong_key (m0 := .disable 1 ⟨9, .raw 0, .empty, .empty⟩) rfl (by decide)
    (h guardedDemo ⟨1, 200, 0, [_]⟩ 1 _ rfl rfl
      (fun m hm => by cases List.mem_singleton.1 hm; exact ⟨rfl, fun k hk => by cases hk; rfl⟩) (by decide))

/-- wrong key, custody disabled, then the plain bank send that was blocked goes through -/
example :
    (runTx guardedDemo ⟨1, 200, 0, [.bankSend 1 3 [(0, 777)]]⟩).2 = .err .conflict ∧
    (runTx (runTx guardedDemo ⟨1, 200, 0, [.disable 1 ⟨9, .raw 0, .empty, .empty⟩]⟩).1
        ⟨1, 200, 0, [.bankSend 1 3 [(0, 777)]]⟩).2 = .ok ∧
    (runTx guardedDemo ⟨1, 200, 0, [.drop 1 ⟨9, .raw 0, .empty, .empty⟩]⟩).1.settings 1 = none := by decide

/-- **Own settings (partial: the transaction contains no `disable` / `drop` / limits message).** If a
transaction whose messages are all signed by `a` changes the policy of `a` (custody enabled), and all its
settings messages are of the seven key-checked kinds, then it carried the preimage of `a`'s key. -/
theorem own_policy_change_needs_key_partial (s : State) (tx : Tx) (a : Addr) (st : Settings)
    (hs : s.settings a = some st) (hen : st.enabled = true)
    (hsigner : ∀ m ∈ tx.msgs, m.signer = a)
    (hkinds : ∀ m ∈ tx.msgs, m.keyArgs.isSome → keyCheckedKind m = true)
    (hch : policy (runTx s tx).1 a ≠ policy s a) :
    ∃ m ∈ tx.msgs, ∃ k, m.keyArgs = some k ∧ keyHash k.old = st.key := by
  obtain ⟨hok, m, hm, hk⟩ := runTx_policy_change hch
  obtain ⟨k, hk'⟩ := Option.isSome_iff_exists.1 hk
  have hc := keyArgsChecked_of_isSome hk' ((keyArgsChecked_isSome_iff m).trans (hkinds m hm hk))
  have hsm : s.settings m.signer = some st := by rw [hsigner m hm]; exact hs
  exact ⟨m, hm, k, hk', (accepted_tx_proves_signer_key_partial s tx m st k hm hsm hen hc hok).1⟩

example : policy (runTx guardedDemo ⟨1, 200, 0, [.addCust 1 [6] ⟨1, keyHash 2, .empty, .empty⟩]⟩).1 1 ≠ policy guardedDemo 1 := by
  decide

def isCustodian (s : State) (t v : Addr) : Bool :=
  match s.custodians t with
  | some cs => aget cs v == some true
  | none => false

def pendingDemo : State :=
  { guardedDemo with
    pool := fun a => if a = 1 then (some [(3, { frm := 1, to := 3, amount := [(0, 1000000)], password := 1, reward := [(0, 1000)] })]) else none }

/-- the full statement: an approval transaction signed by `v` takes coins out of the guarded
account `t` only if `v` is one of its custodians -/
def only_custodians_count_full : Prop :=
  ∀ (s : State) (v t : Addr) (h : HashStr) (fee : Nat) (now : Int) (d : Denom), v ≠ t →
    (runTx s ⟨v, fee, now, [.approve v t h]⟩).1.bal t d < s.bal t d → isCustodian s t v = true

/-- `C17/approve/non-custodian-counts-and-is-paid`: account 7 is not a custodian of account 1; its approval is
counted (1 of 2 = 50 % ≥ mode), the transfer is released and 7 receives half of the reward. -/
theorem only_custodians_count_counterexample : ¬ only_custodians_count_full := by
  intro h
  have := h pendingDemo 7 1 ⟨3, 0⟩ 200 0 0 (by decide) (by decide)
  exact absurd this (by decide)

example :
    let r := runTx pendingDemo ⟨7, 200, 0, [.approve 7 1 ⟨3, 0⟩]⟩
    r.2 = .ok ∧ r.1.pool 1 = some [] ∧ r.1.bal 3 0 = 10000000 + 1000000 ∧ r.1.bal 7 0 = 10000000 - 200 + 500 ∧
    r.1.bal 1 0 = 10000000 - 1000000 - 500 := by decide

def passwordDemo : State :=
  { settings := fun a => if a = 1 then some { enabled := false, usePassword := true, key := keyHash 1 } else none,
    pool := fun a => if a = 1 then (some [(2, { frm := 1, to := 3, amount := [(0, 1000000)], password := 1, reward := [(0, 1000)] })]) else none,
    bal := funded }

/-- the full statement: where a password is required, a confirmation moves coins only if it carries the
password the transfer was requested with -/
def password_checked_full : Prop :=
  ∀ (s : State) (who sender : Addr) (h : HashStr) (pw : Nat) (fee : Nat) (now : Int) (d : Denom)
    (st : Settings) (l : List (Nat × TxRec)) (r : TxRec),
    s.settings sender = some st → st.usePassword = true → s.pool sender = some l → aget l h.id = some r → who ≠ sender →
    (runTx s ⟨who, fee, now, [.confirm who sender h pw]⟩).1.bal sender d < s.bal sender d → pw = r.password

/-- `C17/password/never-compared`: `MsgPasswordConfirmTransaction.Password` is never read; anybody confirms
anybody's transfer with any string. -/
theorem password_checked_counterexample : ¬ password_checked_full := by
  intro h
  have := h passwordDemo 7 1 ⟨2, 0⟩ 2 200 0 0 _ _ _ rfl rfl rfl rfl (by decide) (by decide)
  exact absurd this (by decide)

/-- **Approve, exact (all states and inputs).** A first vote under the key (voter, target, raw hash) needs the
pool entry and the custodian record; it pays the voter `reward[0] / len(custodians map)` from the target,
records the vote, and then EITHER releases — exactly `amount` from the recorded sender to the recorded
recipient, entry deleted — when `(votes+1)·100/len ≥ mode` (custody enabled) and the entry is confirmed (password
required), OR stores the incremented vote count. Nothing else changes. -/
theorem approve_exact (s s' : State) (v t : Addr) (h : HashStr)
    (hfresh : aget s.votes ⟨v, t, h⟩ = none) (hex : execMsg s (.approve v t h) = .ok s') :
    ∃ l r cs rw b1, s.pool t = some l ∧ aget l h.id = some r ∧ s.custodians t = some cs ∧
      rewardShare r.reward cs.length = some rw ∧ sendCoins s.bal t v rw = some b1 ∧
      s'.votes = (⟨v, t, h⟩, 1) :: s.votes ∧ SamePolicy s s' ∧
      (if (allowCustodians (s.settings t) cs.length (r.votes + 1) && allowPassword (s.settings t) r.confirmed) = true
       then ∃ b2, sendCoins b1 r.frm r.to r.amount = some b2 ∧ s'.bal = b2 ∧ s'.pool = upd s.pool t (some (adel l h.id))
       else s'.bal = b1 ∧ s'.pool = upd s.pool t (some (aset l h.id { r with votes := r.votes + 1 }))) := by
  obtain ⟨l, r, cs, rw, b1, b', p', ha⟩ := approve_ok hfresh hex
  obtain rfl := ha.state
  exact ⟨l, r, cs, rw, b1, ha.pool, ha.entry, ha.custodians, ha.share, ha.paid, rfl, ⟨rfl, rfl, rfl, rfl, rfl, rfl⟩, ha.release⟩

example : aget pendingDemo.votes ⟨4, 1, ⟨3, 0⟩⟩ = none ∧
    (runTx pendingDemo ⟨4, 0, 0, [.approve 4 1 ⟨3, 0⟩]⟩).2 = .ok := by decide

theorem approve_same_key_noop (s : State) (v t : Addr) (h : HashStr) (x : Int)
    (hv : aget s.votes ⟨v, t, h⟩ = some x) : execMsg s (.approve v t h) = .ok s ∧ execMsg s (.decline v t h) = .ok s :=
  vote_repeated hv

theorem sendCoins_single (b b' : Bal) (frm to : Addr) (d n : Nat) (hne : frm ≠ to)
    (h : sendCoins b frm to [(d, n)] = some b') :
    n ≤ b frm d ∧ b' frm d = b frm d - n ∧ b' to d = b to d + n ∧
    ∀ a e, ¬ (a = frm ∧ e = d) → ¬ (a = to ∧ e = d) → b' a e = b a e := by
  unfold sendCoins at h
  simp only [subCoins] at h
  by_cases hlt : b frm d < n
  · simp [hlt] at h
  · simp only [hlt, ↓reduceIte, addCoins, Option.some.injEq] at h
    subst h
    have hne' : ¬ to = frm := fun e => hne e.symm
    refine ⟨by omega, ?_, ?_, ?_⟩
    · simp [hne]
    · simp [hne']
    · intro a e h1 h2
      simp [h1, h2]

/-- **A released transfer is paid once**, first half: after the release the entry is gone. -/
theorem released_entry_gone (l : List (Nat × TxRec)) (hid : Nat) : aget (adel l hid) hid = none := by
  rw [aget_adel, if_pos rfl]

/-- …second half: on a state whose pool has no entry under that hash an approval is a no-op (a repeated vote) or an
error and a confirmation is an error: no coins move. -/
theorem no_entry_no_payment (s : State) (v t : Addr) (h : HashStr) (pw : Nat) (l : List (Nat × TxRec))
    (hp : s.pool t = some l) (hn : aget l h.id = none) :
    (execMsg s (.approve v t h) = .ok s ∨ execMsg s (.approve v t h) = .error .panic) ∧
    execMsg s (.confirm v t h pw) = .error .panic := by
  constructor
  · cases hv : aget s.votes ⟨v, t, h⟩ with
    | some x => exact .inl (vote_repeated hv).1
    | none => right; simp [execMsg, hv, hp, hn]
  · simp [execMsg, hp, hn]

example : ∃ (s : State) (t : Addr) (l : List (Nat × TxRec)) (h : Nat), s.pool t = some l ∧ aget l h = none :=
  ⟨(runTx pendingDemo ⟨7, 200, 0, [.approve 7 1 ⟨3, 0⟩]⟩).1, 1, [], 3, by decide, rfl⟩

/-- **Confirm never reads the password.** The message's password is not an input of the result (`_` in the model);
what a confirmation does to the state is `Custody.confirm_ok`. -/
theorem confirm_ignores_password (s : State) (who sender : Addr) (h : HashStr) (pw pw' : Nat) :
    execMsg s (.confirm who sender h pw) = execMsg s (.confirm who sender h pw') :=
  rfl

def dedup : List Nat → List Nat
  | [] => []
  | x :: t => if x ∈ dedup t then dedup t else x :: dedup t

def distinctApprovers (s : State) (t : Addr) (hid : Nat) : Nat :=
  (dedup ((approvalEntries s.votes t hid).map (·.1.voter))).length

/-- the full statement: over every history, a pending transfer never has more votes than distinct approvers -/
def counts_once_full : Prop :=
  ∀ (s0 : State), s0.votes = [] → (∀ a, s0.pool a = none) → ∀ (txs : List Tx) (t : Addr) (l : List (Nat × TxRec)) (hid : Nat) (r : TxRec),
    (run s0 txs).pool t = some l → aget l hid = some r → r.votes ≤ distinctApprovers (run s0 txs) t hid

def threeDemo : State :=
  { settings := fun a => if a = 1 then some { enabled := true, mode := 100, key := keyHash 1 } else none,
    custodians := fun a => if a = 1 then some [(4, true), (5, true), (6, true)] else none,
    bal := funded }

def caseTxs : List Tx :=
  [⟨1, 200, 0, [.send 1 3 [(0, 1000000)] 0 [(0, 900)] 1]⟩,
   ⟨4, 200, 0, [.approve 4 1 ⟨1, 1⟩]⟩,          -- the hash in UPPER case
   ⟨4, 200, 0, [.approve 4 1 ⟨1, 0⟩]⟩]          -- the same hash in lower case

/-- `C17/approve/hash-case-counts-twice`: the vote store is keyed by the RAW hash string, the pool by the
lower-cased one, so one custodian votes once per spelling of the hash: 2 votes, 1 distinct approver. -/
theorem counts_once_counterexample : ¬ counts_once_full := by
  intro h
  have := h threeDemo rfl (fun _ => rfl) caseTxs 1
    [(1, { frm := 1, to := 3, amount := [(0, 1000000)], password := 0, reward := [(0, 900)], votes := 2 })] 1 _ (by decide) rfl
  exact absurd this (by decide)

/-- with two custodians and mode 100 % a single custodian releases the transfer alone (replayed by the harness) -/
example :
    let s0 : State := { threeDemo with custodians := fun a => if a = 1 then some [(4, true), (5, true)] else none }
    let s := run s0 caseTxs
    s.pool 1 = some [] ∧ s.bal 3 0 = 11000000 ∧ s.bal 5 0 = 10000000 := by decide

/-- **Counts once (partial: per spelling of the hash).** Over EVERY history from a state without pending
transfers and votes: the vote count of every pending transfer is at most the number of approval entries stored
for it, and the store holds at most one entry per (voter, target, raw hash string). -/
theorem counts_once_partial (s0 : State) (hv : s0.votes = []) (hp : ∀ a, s0.pool a = none) (txs : List Tx) :
    (∀ t l hid r, (run s0 txs).pool t = some l → aget l hid = some r →
        r.votes ≤ (approvalEntries (run s0 txs).votes t hid).length) ∧
    ((run s0 txs).votes.map (·.1)).Nodup := by
  have h0 : Inv s0 := by
    constructor
    · intro t l hid r h; rw [hp t] at h; cases h
    · unfold KeysFresh; rw [hv]; exact List.nodup_nil
  exact inv_run txs h0

example : threeDemo.votes = [] ∧ (run threeDemo caseTxs).pool 1 ≠ none ∧ (run threeDemo caseTxs).votes.length = 2 := by decide

/-- …so when every stored hash is spelled in lower case (variant 0), the approvers of a transfer are pairwise
distinct addresses: each ADDRESS counts at most once. -/
theorem canonical_hash_counts_addresses_once_partial (votes : List (VoteKey × Int)) (t : Addr) (hid : Nat)
    (hf : (votes.map (·.1)).Nodup) (hc : ∀ e ∈ votes, e.1.hash.variant = 0) :
    ((approvalEntries votes t hid).map (·.1.voter)).Nodup := by
  -- among the approvals of one transfer spelled in lower case the voter determines the whole key
  have hsub : List.Sublist (approvalEntries votes t hid) votes := List.filter_sublist
  refine List.pairwise_map.2 ((List.pairwise_map.1 hf).sublist hsub |>.imp_of_mem ?_)
  intro x y hx hy hne hv
  apply hne
  have px := (List.mem_filter.1 hx).2
  have py := (List.mem_filter.1 hy).2
  have cx := hc x (hsub.subset hx)
  have cy := hc y (hsub.subset hy)
  simp only [isApproval, Bool.and_eq_true, decide_eq_true_eq] at px py
  obtain ⟨⟨vx, tx, ix, wx⟩, ex⟩ := x
  obtain ⟨⟨vy, ty, iy, wy⟩, ey⟩ := y
  simp only at px py cx cy hv
  rw [hv, px.1.1, px.1.2, py.1.1, py.1.2, cx, cy]

example : ((approvalEntries (run threeDemo [⟨1, 200, 0, [.send 1 3 [(0, 1000000)] 0 [(0, 900)] 1]⟩, ⟨4, 200, 0, [.approve 4 1 ⟨1, 0⟩]⟩, ⟨5, 200, 0, [.approve 5 1 ⟨1, 0⟩]⟩]).votes 1 1).map (·.1.voter)) = [5, 4] := by
  decide

/-- the full statement: no send path moves coins of a whitelist-using account to a recipient that is not on the list -/
def whitelist_restricts_every_send_full : Prop :=
  ∀ (s : State) (a to : Addr) (fee : Nat) (now : Int) (st : Settings) (wl : List (Addr × Bool)) (m : Msg),
    s.settings a = some st → st.useWhiteList = true → s.whitelist a = some wl → aget wl to ≠ some true → to ≠ a →
    m.signer = a → ∀ d, (runTx s ⟨a, fee, now, [m]⟩).1.bal to d ≤ s.bal to d

def whitelistDemo : State :=
  { settings := fun a => if a = 2 then some { enabled := false, useWhiteList := true, key := keyHash 1 } else none,
    whitelist := fun a => if a = 2 then some [(8, true)] else none,
    bal := funded }

/-- `C17/whitelist/ignored-by-other-send-paths`: the whitelist is consulted for `bank.MsgSend` only; the custody
send (and `MsgMultiSend`) deliver to account 3, which is not on the list. -/
theorem whitelist_restricts_every_send_counterexample : ¬ whitelist_restricts_every_send_full := by
  intro h
  have := h whitelistDemo 2 3 200 0 _ _ (.send 2 3 [(0, 5000)] 0 [(0, 1000)] 1) rfl rfl rfl (by decide) (by decide) rfl 0
  exact absurd this (by decide)

example : (runTx whitelistDemo ⟨2, 200, 0, [.multiSend 2 3 [(0, 5000)]]⟩).1.bal 3 0 = 10005000 ∧
    (runTx whitelistDemo ⟨2, 200, 0, [.bankSend 2 3 [(0, 5000)]]⟩).2 = .err .notWl ∧
    (runTx whitelistDemo ⟨2, 200, 0, [.bankSend 2 8 [(0, 5000)]]⟩).2 = .ok := by decide

/-- **Whitelist (partial: `bank.MsgSend` only).** Every transaction containing a plain bank send of a
whitelist-using account to a recipient that is not (or no longer: `false` tombstone) on its list is rejected. -/
theorem whitelist_blocks_bank_send_partial (s : State) (tx : Tx) (a to : Addr) (amt : Coins) (st : Settings)
    (wl : List (Addr × Bool)) (hm : .bankSend a to amt ∈ tx.msgs) (hs : s.settings a = some st)
    (hwl : st.useWhiteList = true) (hw : s.whitelist a = some wl) (hn : aget wl to ≠ some true) :
    ∃ e, runTx s tx = (s, .err e) :=
  bankSend_rejected hm hs (.inl fun h => hn ((bankGuard_ok h).2 hwl wl hw))

/-- the full statement: a single bank send above the configured amount of its denom is rejected -/
def limits_restrict_full : Prop :=
  ∀ (s : State) (a to : Addr) (n fee : Nat) (now : Int) (st : Settings) (ls : List (Denom × Limit)) (lim : Limit),
    s.settings a = some st → st.useLimits = true → s.limits a = some ls → aget ls 0 = some lim → lim.ms > 0 →
    n > lim.amount → (runTx s ⟨a, fee, now, [.bankSend a to [(0, n)]]⟩).2 ≠ .ok

def limitsDemo : State :=
  { settings := fun a => if a = 2 then some { enabled := false, useLimits := true, key := keyHash 1 } else none,
    limits := fun a => if a = 2 then some [(0, ⟨100, 3600000⟩)] else none,
    status := fun a => if a = 2 then some [(0, ⟨0, 0⟩)] else none,
    bal := funded }

/-- `C17/limits/never-reject`: the only rejection is `newAmount == 0` of an unsigned number (`newAmount <= 0`);
a send of 1 000 000 under a limit of 100 per hour is accepted. -/
theorem limits_restrict_counterexample : ¬ limits_restrict_full := by
  intro h
  exact h limitsDemo 2 3 1000000 200 0 _ _ _ rfl rfl rfl rfl (by decide) (by decide) (by decide)

/-- `C17/limits/ignored-by-other-send-paths`: limits (like the whitelist) are consulted for `bank.MsgSend` only -/
example : (runTx limitsDemo ⟨2, 200, 0, [.multiSend 2 3 [(0, 1000000)]]⟩).2 = .ok ∧
    (runTx limitsDemo ⟨2, 200, 0, [.send 2 3 [(0, 1000000)] 0 [(0, 1000)] 1]⟩).1.bal 3 0 = 11000000 := by decide

/-- **Limits (what does hold).** No message creates a limit-status record (only genesis import or the recovery
module could), and without one the decorator dereferences nil: with `UseLimits` EVERY transaction containing a
plain bank send of the account is rejected, whatever the amount — `UseLimits` is a kill switch, not a limit. -/
theorem limits_without_status_reject_every_bank_send (s : State) (tx : Tx) (a to : Addr) (amt : Coins) (st : Settings)
    (hm : .bankSend a to amt ∈ tx.msgs) (hs : s.settings a = some st) (hl : st.useLimits = true)
    (hst : s.status a = none) : ∃ e, runTx s tx = (s, .err e) :=
  bankSend_rejected hm hs (.inr ⟨hl, hst⟩)

example : ∃ s tx a to amt st, (.bankSend a to amt : Msg) ∈ tx.msgs ∧ s.settings a = some st ∧ st.useLimits = true ∧
    s.status a = none ∧ (runTx s tx).2 = .err .panic :=
  ⟨{ limitsDemo with status := fun _ => none }, ⟨2, 200, 0, [.bankSend 2 3 [(0, 1)]]⟩, 2, 3, [(0, 1)], _,
   List.mem_cons_self, rfl, rfl, rfl, by decide⟩

theorem status_never_created (s0 : State) (a : Addr) (h0 : s0.status a = none) (txs : List Tx) :
    (run s0 txs).status a = none :=
  run_invariant (P := fun x => x.status a = none) (fun _ _ hs h => hs.none h) (fun _ _ h => h)
    (fun _ _ _ hex h => (execMsg_status hex).symm ▸ h) h0 txs

/-- **a rotation casts no vote and changes no pending transfer**: the custodians' votes are what they were, and the pool
of pending transfers arrives at the new address as it was (payer, recipient, amount, vote count, password state) - the
approvals still missing are still missing -/
theorem rotate_keeps_votes_and_transfers (s s' : State) (old new payer : Addr) (fee : Nat) (hne : old ≠ new)
    (h : rotate s old new payer fee = some s') :
    s'.votes = s.votes ∧ (∀ l, s.pool old = some l → s'.pool new = some l ∧ s'.pool old = none) ∧
    (s.pool old = none → s'.pool = s.pool) := by
  obtain ⟨b0, -, rfl⟩ := rotate_some h
  exact ⟨rfl, fun l hl => ⟨carry_new hl, carry_old _ hne⟩, carry_of_none⟩

/-- a relay signed by an account with custody enabled never gets past the decorator (whatever it embeds) -/
theorem relay_by_guarded_signer_refused (s : State) (relayer key to : Addr) (amt fee : Nat) (st : Settings)
    (h : s.settings relayer = some st) (he : st.enabled = true) : relayTx s relayer key to amt fee = (s, .err .invType) := by
  refine relayTx_refused ?_ key to amt fee
  unfold relayRefused
  rw [h]
  exact he

def SameRecords (s s' : State) : Prop :=
  s'.settings = s.settings ∧ s'.custodians = s.custodians ∧ s'.whitelist = s.whitelist ∧ s'.limits = s.limits ∧
  s'.status = s.status ∧ s'.pool = s.pool ∧ s'.votes = s.votes

theorem relay_touches_only_balances (s : State) (relayer key to : Addr) (amt fee : Nat) :
    SameRecords s (relayTx s relayer key to amt fee).1 := by
  obtain ⟨b, e⟩ := relayTx_bal s relayer key to amt fee
  rw [e]
  exact ⟨rfl, rfl, rfl, rfl, rfl, rfl, rfl⟩

def sRelay : State :=
  { settings := fun a => if a = 1 then some { enabled := true, mode := 100, key := keyHash 1 } else none,
    custodians := fun a => if a = 1 then some [(4, true), (5, true)] else none,
    bal := fun a d => if d = 0 ∧ (a = 1 ∨ a = 7) then 1000000 else 0 }

/-- `C17/relay/ignores-custody`: the full statement "coins of a custody-enabled account leave only through an approved
custody transfer" is false of the code: the unguarded account 7 relays an Ethereum transaction that account 1 signed, and
300000 ukex leave account 1. The same relay sent by account 1 itself is refused. -/
theorem relay_ignores_custody_counterexample :
    let r := relayTx sRelay 7 1 7 300000 1000
    r.2 = .ok ∧ r.1.bal 1 0 = 700000 ∧ r.1.bal 7 0 = 1299000 ∧ r.1.pool 1 = none ∧ r.1.votes = [] ∧
    (relayTx sRelay 1 1 7 300000 1000).2 = .err .invType := by decide

theorem ante_custody_wiring : Sekai.App.once Sekai.Gen.App.anteChain "NewCustodyDecorator" = true := by decide +kernel

/-! ### Key spaces of the custody store (table `Gen.Keys`; why it matters: `Sekai/Model/Keys.lean`) -/

/-- `Keys.apart` at `Char`, under a name of its own because `prefixFree` is stated with it (the two unfold to the same term) -/
def apart (p q : List Char) : Bool := !(p.isPrefixOf q) && !(q.isPrefixOf p)

/-- **keys built on prefixes that are apart are different, whatever follows the prefix** -/
theorem keys_of_apart_prefixes_differ (p q x y : List Char) (h : apart p q = true) : p ++ x ≠ q ++ y :=
  Sekai.Keys.keys_of_apart_prefixes_differ p q x y h

def prefixFree (l : List (String × String)) : Bool :=
  l.all fun a => !(a.2.startsWith "unrecognised:") && l.all fun b => a.1 == b.1 || apart a.2.toList b.2.toList

/-- **the record kinds of the custody store live in disjoint key spaces** -/
theorem key_spaces_disjoint : prefixFree Sekai.Gen.Keys.custody = true := by
  rw [Chars.custodyKeys.2]
  unfold prefixFree
  simp only [List.all_map, Function.comp_def, Chars.startsWith_ofList, String.toList_ofList, Chars.beq_ofList]
  decide +kernel

/-- the table is the one the model was written against: seven record kinds and the two size counters -/
theorem key_table_as_modelled : Sekai.Gen.Keys.custody.map (·.1) =
    ["PrefixKeyCustodyRecord", "PrefixKeyCustodyCustodians", "PrefixKeyCustodyWhiteList", "PrefixKeyCustodyLimits",
     "PrefixKeyCustodyLimitsStatus", "PrefixKeyCustodyPool", "PrefixKeyCustodyVote", "CustodyBufferSizeKey", "CustodyTxSizeKey"] := by
  rfl

/-- what the check is for: a vote-marker prefix that extends the settings prefix lets a settings key name a vote marker -/
example : prefixFree [("A", "custody_record_"), ("B", "custody_record_vote_")] = false ∧
    "custody_record_".toList ++ "vote_xyz".toList = "custody_record_vote_".toList ++ "xyz".toList := by decide +kernel

end Sekai.Props.C17
