import SekaiProofs.Lemmas.Gov
import Sekai.Model.Perm
import Sekai.Model.Mint
import Sekai.Model.Stake
import Sekai.Gen.Panics
import Sekai.Gen.App
import Sekai.Model.App
import SekaiProofs.Lemmas.Upgrade
import Sekai.Gen.Keys
import SekaiProofs.Lemmas.Keys
/-! # C06 — No reachable state or block can halt the chain  (partial: Go panics are a runtime notion)

What a Lean model can carry: (1) the set of places that can panic inside block processing — explicit `panic`,
`Must*`, `Coins.Sub`, `NewCoin` on computed amounts, `Quo` and integer division by non-constants — extracted by a
typed call-graph pass from the CURRENT source and pinned here (`panic_sites_as_reviewed`): a new panic in an
EndBlocker, or a removed guard that changes a site's expression, re-opens the obligation; (2) for the sites whose
function is modelled, the exact condition under which the model takes the panic branch, and a closed history that
reaches it where the condition is reachable (recorded findings) — of the validator status machine `stake_ops_total` says only
that the model is a total function; (3) the dynamic search: real blocks with `recover`
around every ABCI call. Nil dereferences and index panics that are not syntactically visible are reachable only
through (3). Then (4) the deliberate stop: when the upgrade BeginBlocker halts (`upgrade_halts_iff`), that a halt is stable, that
only a scheduled plan can cause one (`upgrade_plan_provenance`); the Begin / End wiring; the key spaces of the upgrade store. -/
namespace Sekai.Props.C06
open Sekai

/-- processProposal takes the panic branch iff the queued proposal does not exist, or it is due and IsQuorum returns an
error: more votes than eligible voters, or a quorum above 1 -/
theorem gov_tally_panics_iff (voters : Nat → List Nat) (tally : Nat → Nat → Nat → Nat → Nat → Nat → Gov.Tally)
    (quorum : Dec.D) (meb t h : Nat) (s : Gov.St) (id : Nat) :
    Gov.processProposal voters tally quorum meb t h s id = none ↔
      Gov.getP s id = none ∨
      ∃ p, Gov.getP s id = some p ∧ ¬ p.votingEnd > t ∧ ¬ p.minVoteH > h ∧
        ((s.votes.filter (·.pid == id)).length > (voters p.votePerm).length ∨ quorum > Dec.one) := by
  fun_cases Gov.processProposal voters tally quorum meb t h s id
  next hp => simp [hp]                                       -- no such proposal: panic
  next p hp hE => simp [hp]; intro; omega                    -- voting has not ended: skipped
  next p hp _ hH => simp [hp]; intro _ _; omega              -- the minimum voting height is not reached: skipped
  next p hp hE hH vs avail hq =>                             -- due, IsQuorum errs: panic
    simp only [hp, reduceCtorEq, false_or, Option.some.injEq, exists_eq_left', true_iff]
    exact ⟨hE, hH, (Gov.isQuorum_eq_none ..).mp hq⟩
  next p hp hE hH vs avail q hq _ _ _ =>                     -- due, IsQuorum answers: tallied
    simp only [hp, reduceCtorEq, false_or, Option.some.injEq, exists_eq_left', false_iff, not_and]
    intro _ _ hn
    rw [(Gov.isQuorum_eq_none ..).mpr hn] at hq; cases hq

/-- the enactment step panics only when the queued proposal does not exist -/
theorem gov_enact_panics_iff (applyOk : Nat → Bool) (t h : Nat) (s : Gov.St) (id : Nat) :
    Gov.processEnactment applyOk t h s id = none ↔ Gov.getP s id = none := by
  fun_cases Gov.processEnactment applyOk t h s id <;> simp [*]

/-- finding: a voter who loses the vote permission after voting makes the tally see more votes than voters:
submit, vote (voter 3 holds permission 7), permission removed, voting end ⇒ the EndBlocker panics -/
theorem voter_loses_permission_counterexample :
    let P0 := ([Perm.Op.wlAcct 3 7].foldl Perm.apply ({} : Perm.St))
    let g0 := Gov.submit {} 7 1 100 1 300 300 2 1
    let g1 := (Gov.vote g0 (P0.actors 3).isSome (fun p => Perm.checkAllowed P0 3 p) 1 3 1 150).getD g0
    let P1 := Perm.apply P0 (.rmWlAcct 3 7)
    g1.votes.length = 1 ∧
    Gov.endBlock (Perm.voters P1) (fun _ _ _ _ _ _ => .passed) (fun _ => true) 333333333333333333 1 500 5 g1 = none := by
  decide +kernel

/-- the handler panics exactly when the proposed period or a stored period is zero -/
theorem ubi_upsert_panics_iff (records : List (Nat × Nat)) (amount period hardcap : Nat) :
    Mint.ubiUpsert records amount period hardcap = none ↔ period = 0 ∨ ∃ r ∈ records, r.2 = 0 := by
  simp only [Mint.ubiUpsert, ite_eq_left_iff, reduceCtorEq, imp_false, Decidable.not_not, List.any_eq_true, beq_iff_eq]

/-! ## the validator status machine is total (`Stake.apply`; `none` of `Stake.step`: the message fails, nothing is
written); whether the consensus engine accepts the EndBlocker's update list is C05's subject (`sync_applicable`) -/

theorem stake_ops_total (p : Stake.Params) (s : Stake.S) (op : Stake.Op) : ∃ s', Stake.apply p s op = s' := ⟨_, rfl⟩

def expectedSites : List (String × String × String × String) := [
  ("x/collectives/keeper/collective.go", "Keeper.SendDonation", "coins-sub", "donations.Sub"),
  ("x/collectives/keeper/collective.go", "Keeper.WithdrawCollective", "coins-sub", "sdk.Coins(collective.Bonds).Sub"),
  ("x/collectives/keeper/collective.go", "Keeper.WithdrawCollective", "coins-sub", "sdk.Coins(collective.Bonds).Sub(collectiveBonds...).Sub"),
  ("x/collectives/keeper/collective.go", "Keeper.WithdrawCollective", "must", "sdk.MustAccAddressFromBech32"),
  ("x/collectives/keeper/keeper.go", "calcPortion", "newcoin", "sdk.NewDecFromInt(coin.Amount).Mul(portion).RoundInt()"),
  ("x/distributor/keeper/abci.go", "Keeper.BeginBlocker", "panic", "err"),
  ("x/distributor/keeper/annual_inflation.go", "Keeper.InflationPossible", "intdiv", "month"),
  ("x/distributor/keeper/annual_inflation.go", "Keeper.InflationPossible", "quo", "sdk.NewDecFromInt(snapshot.SnapshotAmount)"),
  ("x/distributor/keeper/distributor.go", "Keeper.AllocateTokensToValidator", "panic", "err"),
  ("x/distributor/keeper/distributor.go", "Keeper.AllocateTokensToValidator", "panic", "err"),
  ("x/distributor/keeper/distributor.go", "Keeper.AllocateTokensToValidator", "panic", "err"),
  ("x/distributor/keeper/distributor.go", "Keeper.AllocateTokens", "coins-sub", "feesAccBalance.Sub"),
  ("x/distributor/keeper/distributor.go", "Keeper.AllocateTokens", "newcoin", "inflationCommissionReward"),
  ("x/distributor/keeper/distributor.go", "Keeper.AllocateTokens", "newcoin", "inflationPoolReward"),
  ("x/distributor/keeper/distributor.go", "Keeper.AllocateTokens", "newcoin", "inflationRewards"),
  ("x/distributor/keeper/distributor.go", "Keeper.AllocateTokens", "newcoin", "poolReward"),
  ("x/distributor/keeper/distributor.go", "Keeper.AllocateTokens", "newcoin", "valReward"),
  ("x/distributor/keeper/distributor.go", "Keeper.AllocateTokens", "panic", "err"),
  ("x/distributor/keeper/distributor.go", "Keeper.AllocateTokens", "panic", "err"),
  ("x/distributor/keeper/distributor.go", "Keeper.AllocateTokens", "quo", "sdk.NewDec(int64(properties.InflationPeriod))"),
  ("x/distributor/keeper/distributor.go", "Keeper.AllocateTokens", "quo", "sdk.NewInt(snapPeriod)"),
  ("x/distributor/keeper/distributor.go", "Keeper.AllocateTokens", "quo", "sdk.NewInt(snapPeriod)"),
  ("x/distributor/keeper/distributor.go", "Keeper.GetPreviousProposerConsAddr", "panic", "\"previous proposer not set\""),
  ("x/distributor/keeper/store.go", "Keeper.GetFeesTreasury", "panic", "err"),
  ("x/evidence/keeper/infraction.go", "Keeper.HandleEquivocationEvidence", "panic", "fmt.Sprintf(\"expected signing info for validator %s but not "),
  ("x/evidence/keeper/keeper.go", "Keeper.MustMarshalEvidence", "panic", "fmt.Errorf(\"failed to encode evidence: %w\", err)"),
  ("x/evidence/keeper/keeper.go", "Keeper.SetEvidence", "must", "k.MustMarshalEvidence"),
  ("x/evidence/types/evidence.go", "Equivocation.Hash", "panic", "err"),
  ("x/evidence/types/evidence.go", "FromABCIEvidence", "panic", "err"),
  ("x/feeprocessing/keeper/keeper.go", "Keeper.ProcessExecutionFeeReturn", "newcoin", "amount"),
  ("x/feeprocessing/keeper/keeper.go", "Keeper.ProcessExecutionFeeReturn", "panic", "err"),
  ("x/feeprocessing/keeper/keeper.go", "Keeper.SendCoinsFromModuleToAccount", "coins-sub", "recipientSentCoins.Sub"),
  ("x/feeprocessing/keeper/keeper.go", "Keeper.SendCoinsFromModuleToAccount", "newcoin", "coinAmt.Int64()"),
  ("x/gov/abci.go", "processEnactmentProposal", "panic", "\"proposal was expected to exist\""),
  ("x/gov/abci.go", "processPoll", "panic", "err"),
  ("x/gov/abci.go", "processPoll", "panic", "fmt.Sprintf(\"Invalid quorum on proposal: pollID=%d, err=%+v\""),
  ("x/gov/abci.go", "processProposal", "panic", "\"proposal was expected to exist\""),
  ("x/gov/abci.go", "processProposal", "panic", "fmt.Sprintf(\"Invalid quorum on proposal: proposalID=%d, prop"),
  ("x/gov/keeper/identity_registrar.go", "ValidateIdentityRecordKey", "must", "regexp.MustCompile"),
  ("x/gov/keeper/network_actor.go", "Keeper.GetNetworkActorOrFail", "panic", "\"expected network actor not found\""),
  ("x/gov/keeper/permission_registry.go", "Keeper.SetRole", "panic", "err"),
  ("x/gov/keeper/proposal.go", "Keeper.GetAverageVotesSlash", "quo", "totalCount"),
  ("x/gov/keeper/util.go", "ValidateRoleSidKey", "must", "regexp.MustCompile"),
  ("x/gov/types/poll_vote.go", "CalculatedPollVotes.ProcessResult", "quo", "sdk.NewDec(int64(c.actorsWithVeto))"),
  ("x/gov/types/router.go", "ProposalRouter.AllowedAddressesDynamicProposal", "panic", "\"invalid proposal type\""),
  ("x/gov/types/router.go", "ProposalRouter.ApplyProposal", "panic", "\"invalid proposal type\""),
  ("x/gov/types/router.go", "ProposalRouter.EnactmentPeriodDynamicProposal", "panic", "\"invalid proposal type\""),
  ("x/gov/types/router.go", "ProposalRouter.QuorumDynamicProposal", "panic", "\"invalid proposal type\""),
  ("x/gov/types/router.go", "ProposalRouter.VotePeriodDynamicProposal", "panic", "\"invalid proposal type\""),
  ("x/layer2/keeper/abci.go", "Keeper.EndBlocker", "must", "sdk.MustAccAddressFromBech32"),
  ("x/layer2/keeper/abci.go", "Keeper.EndBlocker", "newcoin", "dapp.Issuance.Premint"),
  ("x/layer2/keeper/abci.go", "Keeper.EndBlocker", "panic", "err"),
  ("x/layer2/keeper/abci.go", "Keeper.FinishDappBootstrap", "must", "sdk.MustAccAddressFromBech32"),
  ("x/layer2/keeper/abci.go", "Keeper.FinishDappBootstrap", "newcoin", "dapp.Issuance.Premint"),
  ("x/layer2/keeper/abci.go", "Keeper.FinishDappBootstrap", "newcoin", "spendingPoolDeposit"),
  ("x/layer2/keeper/abci.go", "Keeper.FinishDappBootstrap", "newcoin", "totalSupply"),
  ("x/layer2/keeper/abci.go", "Keeper.FinishDappBootstrap", "panic", "err"),
  ("x/layer2/keeper/abci.go", "Keeper.FinishDappBootstrap", "panic", "err"),
  ("x/layer2/keeper/abci.go", "Keeper.FinishDappBootstrap", "quo", "sdk.NewDec(int64(drip))"),
  ("x/layer2/keeper/dapp.go", "Keeper.ExecuteDappRemove", "must", "sdk.MustAccAddressFromBech32"),
  ("x/layer2/keeper/dapp_session.go", "Keeper.ResetNewSession", "intdiv", "len(executors)"),
  ("x/layer2/keeper/dapp_session.go", "Keeper.ResetNewSession", "must", "sdk.MustAccAddressFromBech32"),
  ("x/layer2/keeper/dapp_session.go", "Keeper.ResetNewSession", "newcoin", "operator.BondedLpAmount"),
  ("x/layer2/keeper/dapp_session.go", "Keeper.ResetNewSession", "panic", "err"),
  ("x/layer2/keeper/msg_server.go", "Keeper.GetCoinsFromBridgeBalance", "newcoin", "balance.Amount"),
  ("x/layer2/keeper/msg_server.go", "msgServer.MintBurnTx", "must", "sdk.MustAccAddressFromBech32"),
  ("x/layer2/keeper/msg_server.go", "msgServer.MintBurnTx", "newcoin", "msg.Amount"),
  ("x/layer2/keeper/msg_server.go", "msgServer.MintCreateFtTx", "must", "sdk.MustAccAddressFromBech32"),
  ("x/layer2/keeper/msg_server.go", "msgServer.MintCreateFtTx", "newcoin", "int64(properties.MintingFtFee)"),
  ("x/layer2/keeper/msg_server.go", "msgServer.MintCreateNftTx", "must", "sdk.MustAccAddressFromBech32"),
  ("x/layer2/keeper/msg_server.go", "msgServer.MintCreateNftTx", "newcoin", "int64(properties.MintingFtFee)"),
  ("x/layer2/keeper/msg_server.go", "msgServer.MintIssueTx", "must", "sdk.MustAccAddressFromBech32"),
  ("x/layer2/keeper/msg_server.go", "msgServer.MintIssueTx", "must", "sdk.MustAccAddressFromBech32"),
  ("x/layer2/keeper/msg_server.go", "msgServer.MintIssueTx", "newcoin", "fee"),
  ("x/layer2/keeper/msg_server.go", "msgServer.MintIssueTx", "newcoin", "msg.Amount"),
  ("x/layer2/keeper/msg_server.go", "msgServer.TransferDappTx", "must", "sdk.MustAccAddressFromBech32"),
  ("x/multistaking/keeper/delegation.go", "Keeper.ClaimRewardsFromModule", "panic", "err"),
  ("x/multistaking/keeper/delegation.go", "Keeper.ClaimRewards", "panic", "err"),
  ("x/multistaking/keeper/delegation.go", "Keeper.GetDelegatorRewards", "panic", "err"),
  ("x/multistaking/keeper/delegation.go", "Keeper.IncreasePoolRewards", "coins-sub", "rewards.Sub"),
  ("x/multistaking/keeper/delegation.go", "Keeper.IncreasePoolRewards", "newcoin", "reward.Amount.Mul(balance).Quo(shareToken.Amount)"),
  ("x/multistaking/keeper/delegation.go", "Keeper.IncreasePoolRewards", "newcoin", "sdk.NewDecFromInt(reward.Amount).Mul(rate.StakeCap).RoundInt()"),
  ("x/multistaking/keeper/delegation.go", "Keeper.IncreasePoolRewards", "panic", "err"),
  ("x/multistaking/keeper/delegation.go", "Keeper.IncreasePoolRewards", "panic", "err"),
  ("x/multistaking/keeper/delegation.go", "Keeper.IncreasePoolRewards", "quo", "shareToken.Amount"),
  ("x/multistaking/keeper/slash.go", "Keeper.SlashStakingPool", "coins-sub", "sdk.Coins(pool.TotalStakingTokens).Sub"),
  ("x/multistaking/keeper/slash.go", "Keeper.SlashStakingPool", "coins-sub", "totalSlashedTokens.Sub"),
  ("x/multistaking/keeper/slash.go", "Keeper.SlashStakingPool", "newcoin", "defaultDenomAmount"),
  ("x/multistaking/keeper/slash.go", "Keeper.SlashStakingPool", "newcoin", "sdk.NewDecFromInt(stakingToken.Amount).Mul(sdk.OneDec().Sub(pool.Slashed)).RoundInt()"),
  ("x/multistaking/keeper/slash.go", "Keeper.SlashStakingPool", "panic", "err"),
  ("x/multistaking/keeper/slash.go", "Keeper.SlashStakingPool", "panic", "err"),
  ("x/multistaking/keeper/slash.go", "Keeper.SlashStakingPool", "panic", "err"),
  ("x/multistaking/types/pool.go", "GetPoolCoins", "newcoin", "sdk.NewDecFromInt(coin.Amount).Mul(sdk.OneDec().Sub(pool.Slashed)).RoundInt()"),
  ("x/recovery/keeper/recovery.go", "Keeper.IncreaseRecoveryTokenUnderlying", "coins-sub", "amount.Sub"),
  ("x/recovery/keeper/recovery.go", "calcPortion", "newcoin", "coin.Amount.Mul(portion).Quo(supply)"),
  ("x/recovery/keeper/recovery.go", "calcPortion", "quo", "supply"),
  ("x/recovery/keeper/rewards.go", "Keeper.ClaimRewards", "panic", "err"),
  ("x/recovery/keeper/rewards.go", "Keeper.GetRRTokenHolderRewards", "panic", "err"),
  ("x/slashing/keeper/infractions.go", "Keeper.HandleValidatorSignature", "panic", "fmt.Sprintf(\"Expected signing info for validator %s but not "),
  ("x/slashing/keeper/infractions.go", "Keeper.HandleValidatorSignature", "panic", "fmt.Sprintf(\"Validator consensus-address %s not found: %s\", "),
  ("x/slashing/keeper/infractions.go", "Keeper.HandleValidatorSignature", "panic", "fmt.Sprintf(\"Validator not found by consensus-address: %s\", "),
  ("x/slashing/keeper/signing_info.go", "Keeper.IterateValidatorSigningInfos", "panic", "err"),
  ("x/slashing/keeper/signing_info.go", "Keeper.JailUntil", "panic", "\"cannot jail validator that does not have any signing inform"),
  ("x/spending/keeper/abci.go", "Keeper.EndBlocker", "must", "sdk.MustAccAddressFromBech32"),
  ("x/spending/keeper/abci.go", "Keeper.EndBlocker", "quo", "sdk.NewDec(int64(pool.DynamicRatePeriod)).Mul(totalWeight)"),
  ("x/spending/keeper/spending_pool.go", "Keeper.ClaimSpendingPool", "coins-sub", "sdk.Coins(pool.Balances).Sub"),
  ("x/spending/keeper/spending_pool.go", "Keeper.ClaimSpendingPool", "newcoin", "amount"),
  ("x/spending/proposal_handler.go", "ApplySpendingPoolWithdrawProposalHandler.Apply", "coins-sub", "sdk.Coins(pool.Balances).Sub"),
  ("x/spending/types/keys.go", "ValidateSpendingPoolName", "must", "regexp.MustCompile"),
  ("x/staking/keeper/val_state_change.go", "Keeper.BlockValidatorUpdates", "panic", "err"),
  ("x/staking/types/validator.go", "Validator.GetConsPubKey", "panic", "\"invalid key\""),
  ("x/ubi/keeper/ubi.go", "Keeper.ProcessUBIRecord", "newcoin", "amount"),
  ("x/ubi/proposal_handler.go", "ApplyUpsertUBIProposalHandler.Apply", "intdiv", "p.Period"),
  ("x/ubi/proposal_handler.go", "ApplyUpsertUBIProposalHandler.Apply", "intdiv", "p.Period"),
  ("x/ubi/proposal_handler.go", "ApplyUpsertUBIProposalHandler.Apply", "intdiv", "record.Period"),
  ("x/upgrade/keeper/plan.go", "Keeper.ApplyUpgradePlan", "panic", "err"),
  ("x/upgrade/keeper/plan.go", "Keeper.ApplyUpgradePlan", "panic", "fmt.Sprintf(\"Handler for \\\"%s\\\" instate upgrade is not set\","),
  ("x/upgrade/keeper/plan.go", "Keeper.ApplyUpgradePlan", "panic", "fmt.Sprintf(\"UPGRADE \\\"%s\\\" NEEDED at upgrade_time=%s\", plan"),
  ("x/upgrade/keeper/plan.go", "Keeper.SaveCurrentPlan", "panic", "err"),
  ("x/upgrade/keeper/plan.go", "Keeper.setNextPlan", "panic", "err")
]

/-- **the places that can panic inside BeginBlock / EndBlock / proposal enactment are exactly these** (typed call
graph from the module Begin/EndBlock methods, the Begin/EndBlocker functions and every proposal handler's Apply;
interface calls resolved by method name). Reviewed: the gov quorum panic, the spending-pool `Coins.Sub`, the
multistaking reward / slash panics, the layer2 EndBlocker panics and the UBI division are reachable and recorded as
findings (C06/C10/C13/C18/C20 keys); the `"… expected to exist"` panic of `processProposal` is guarded by the queue invariant of
C08 (`Inv.activePending`), the one of `processEnactmentProposal` by no theorem (`Inv` does not constrain the enactment queue:
`gov_enact_panics_iff` is its exact condition); the remaining sites are reached only through the dynamic search. -/
theorem panic_sites_as_reviewed : Sekai.Gen.Panics.sites = expectedSites := by rfl

section upgrade
open Sekai.Upgrade

/-- the upgrade BeginBlocker panics exactly when a plan is on record, its time has come, and either (second pass) it is
not an instate upgrade, or it is one whose handler is neither skipped nor registered - or (first pass) the proposal the
plan names is not on record -/
theorem upgrade_halts_iff (s : St) (now : Int) (hh : String → Bool) (po : Bool) :
    (begin s now hh po).2.isHalt = true ↔
      ∃ p, s.next = some p ∧ p.time ≤ now ∧
        ((p.processed = false ∧ po = false) ∨
         (p.processed = true ∧ (p.instate = false ∨ (p.skipHandler = false ∧ hh p.name = false)))) := by
  fun_cases begin s now hh po
  · simp_all [Out.isHalt]            -- no plan: idle
  · simp_all [Out.isHalt]; omega     -- not due: idle (the one branch with arithmetic: `now < p.time` against `p.time ≤ now`)
  · simp_all [Out.isHalt]            -- first pass, the plan's proposal is on record: paused
  · simp_all [Out.isHalt]            -- first pass, the proposal is missing: haltPause, the first disjunct
  · simp_all [Out.isHalt]            -- second pass, not instate: haltNeeded, `p.instate = false`
  · simp_all [Out.isHalt]            -- instate, handler skipped
  · simp_all [Out.isHalt]            -- instate, handler ran
  · simp_all [Out.isHalt]            -- instate, handler neither skipped nor registered: haltNoHandler, the last disjunct

/-- a halt changes nothing (the process dies before the block is committed): delivering the same block again to the same
binary halts again - the stop is stable until the operators act -/
theorem upgrade_halt_is_stable (s : St) (now : Int) (hh : String → Bool) (po : Bool)
    (h : (begin s now hh po).2.isHalt = true) :
    (begin s now hh po).1 = s ∧ (begin (begin s now hh po).1 now hh po).2 = (begin s now hh po).2 := by
  rcases begin_effect s now hh po with hs | ⟨hn, _⟩
  · exact ⟨hs, by rw [hs]⟩
  · rw [h] at hn; cases hn

theorem upgrade_no_plan_idle (s : St) (now : Int) (hh : String → Bool) (po : Bool) (h : s.next = none) :
    begin s now hh po = (s, .idle) := by simp [begin, h]

theorem upgrade_not_before_time (s : St) (p : Plan) (now : Int) (hh : String → Bool) (po : Bool)
    (h : s.next = some p) (ht : now < p.time) : begin s now hh po = (s, .idle) := by simp [begin, h, ht]

/-- a plan whose time is not in the future of the scheduling block is refused; an accepted one is stored unprocessed and
cannot fire in the block that scheduled it -/
theorem upgrade_schedule_future_only (s s' : St) (p : Plan) (now : Int) (h : schedule s p now = some s') :
    now < p.time ∧ s'.next = some { p with processed := false } ∧ s'.current = s.current ∧
    ∀ hh po, begin s' now hh po = (s', .idle) := by
  obtain ⟨ht, rfl⟩ := schedule_eq_some.mp h
  exact ⟨ht, rfl, rfl, fun hh po => upgrade_not_before_time _ _ now hh po rfl ht⟩

theorem upgrade_schedule_refuses_past (s : St) (p : Plan) (now : Int) (h : p.time ≤ now) : schedule s p now = none := by
  simp [schedule, h]

theorem upgrade_cancel_prevents_halt (s : St) (now : Int) (hh : String → Bool) (po : Bool) :
    begin (cancel s) now hh po = (cancel s, .idle) := by simp [begin, cancel]

/-- the first due block never halts (when the plan's proposal is on record): it pauses the validators that did not
approve and marks the plan; the halt, if any, is the block after -/
theorem upgrade_first_pass_pauses (s : St) (p : Plan) (now : Int) (hh : String → Bool)
    (h : s.next = some p) (ht : p.time ≤ now) (hp : p.processed = false) :
    begin s now hh true = ({ s with next := some { p with processed := true } }, .paused) := by
  have : ¬ now < p.time := by omega
  simp [begin, h, this, hp]

/-- an instate upgrade that skips its handler, or whose handler the binary registered, never halts: the plan becomes the
current plan and the next-plan slot is cleared -/
theorem upgrade_instate_goes_through (s : St) (p : Plan) (now : Int) (hh : String → Bool) (po : Bool)
    (h : s.next = some p) (ht : p.time ≤ now) (hp : p.processed = true) (hi : p.instate = true)
    (hok : p.skipHandler = true ∨ hh p.name = true) :
    (begin s now hh po).1 = { next := none, current := some p } ∧ (begin s now hh po).2.isHalt = false := by
  have : ¬ now < p.time := by omega
  rcases hok with hk | hk
  · simp [begin, h, this, hp, hi, hk, Out.isHalt]
  · cases hs : p.skipHandler <;> simp [begin, h, this, hp, hi, hk, hs, Out.isHalt]

/-- `p` is, up to its `processed` flag, a plan that a `schedule` operation of `ops` stored. (Only a passed software-upgrade
proposal issues one: `Gen.App.proposalHandlers`, C08.) -/
def FromSchedule (ops : List Op) (p : Plan) : Prop :=
  ∃ q now, Op.schedule q now ∈ ops ∧ now < q.time ∧ { q with processed := p.processed } = p

theorem upgrade_plan_provenance (ops : List Op) (s : St) (p : Plan) (h : (ops.foldl apply s).next = some p) :
    FromSchedule ops p ∨ ∃ p0, s.next = some p0 ∧ { p0 with processed := p.processed } = p := by
  induction ops generalizing s with
  | nil => exact .inr ⟨p, h, rfl⟩
  | cons op ops ih =>
    rcases ih (apply s op) h with ⟨q, now, hm, ht, he⟩ | ⟨p0, h0, he⟩
    · exact .inl ⟨q, now, List.mem_cons_of_mem _ hm, ht, he⟩
    · rcases next_of_apply h0 with ⟨q, now, ho, ht, hq⟩ | ⟨p1, h1, hq⟩
      · refine .inl ⟨q, now, by simp [ho], ht, ?_⟩
        rw [← he, ← hq]
      · refine .inr ⟨p1, h1, ?_⟩
        rw [← he, ← hq]

theorem upgrade_no_halt_without_schedule (ops : List Op) (now : Int) (hh : String → Bool) (po : Bool)
    (hno : ∀ q t, Op.schedule q t ∉ ops) : (begin (ops.foldl apply init) now hh po).2.isHalt = false := by
  cases hn : (ops.foldl apply init).next with
  | none => rw [upgrade_no_plan_idle _ now hh po hn]; rfl
  | some p =>
    rcases upgrade_plan_provenance ops init p hn with ⟨q, t, hm, _, _⟩ | ⟨p0, h0, _⟩
    · exact absurd hm (hno q t)
    · simp [init] at h0

example :
    let p : Plan := { name := "v2", time := 100, instate := false, skipHandler := false, processed := false, proposal := 7 }
    let s1 := (schedule init p 40).getD init
    (begin s1 99 (fun _ => false) true).2 = .idle ∧
    (begin s1 100 (fun _ => false) true).2 = .paused ∧
    (begin (begin s1 100 (fun _ => false) true).1 106 (fun _ => false) true).2 = .haltNeeded := by decide

example :
    let p : Plan := { name := "v2", time := 100, instate := true, skipHandler := false, processed := false, proposal := 7 }
    let s2 := (begin ((schedule init p 40).getD init) 100 (fun _ => false) true).1
    (begin s2 106 (fun _ => false) true).2 = .haltNoHandler ∧ (begin s2 106 (fun n => n == "v2") true).2 = .applied := by decide

end upgrade

/-- every module that appears in the Begin order appears in the End order and vice versa, each once (the module manager
panics at start-up otherwise), and the zero-gas-meter decorator is in the ante chain (no out-of-gas panics in blocks) -/
theorem block_wiring_complete :
    (Sekai.Gen.App.beginOrder.all (Sekai.App.once Sekai.Gen.App.endOrder) && Sekai.Gen.App.endOrder.all (Sekai.App.once Sekai.Gen.App.beginOrder) &&
     Sekai.App.once Sekai.Gen.App.anteChain "NewZeroGasMeterDecorator") = true := by
  decide +kernel

/-! ### Key spaces of the stores this model keeps in separate maps (table `Gen.Keys`; why it matters: `Sekai/Model/Keys.lean`) -/

theorem upgrade_key_spaces_disjoint : Sekai.Keys.disjoint Sekai.Gen.Keys.stores "upgrade" = true :=
  Keys.disjoint_of_pairwise_apart (by decide +kernel)

end Sekai.Props.C06
