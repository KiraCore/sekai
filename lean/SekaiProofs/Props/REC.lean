import SekaiProofs.Lemmas.RecoveryBacking
import SekaiProofs.Lemmas.RecoveryTokens
import SekaiProofs.Lemmas.RecoveryIdentity
import SekaiProofs.Lemmas.RecoveryValidators
import Sekai.Gen.Keys
import SekaiProofs.Lemmas.Keys
/-! # REC — the x/recovery clauses of C03, C04, C06, C10 and C16

Theorems about `Sekai.Recovery` (the executable mirror of `x/recovery/keeper/msg_server.go`, `recovery.go`, `rewards.go`
and of `AllocateTokensToValidator` in the distributor), for ALL states / messages / operation lists. The C16 clause is on THIS
model's copy of the identity registry (on the registrar's model: `C16.rotation_moves_records_unchanged`); `newPool` is not an
`Op` of this model, so the C10 pair is stated per operation, not along `run`. Last, the module's key spaces are disjoint.
Four clauses are FALSE of the code as it stands (what the beneficiary keeps; supply = record; records of others untouched;
block-safety after a rotation): each is a `def …_full : Prop` refuted from closed witnesses (`…_counterexample`), with a
`…_partial` theorem under the hypothesis that excludes the findings. -/
namespace Sekai.Recovery

/-! ## what the closed examples and witnesses below are written with

States hold functions, so two results cannot be compared by `decide`; `okB` / `errOf` are the decidable views of a result.
`moveValWrongOrder` is the mutated `moveVal` of the C06 example. -/

def okB {ε α : Type} : Except ε α → Bool
  | .ok _ => true
  | .error _ => false

def errOf {α : Type} : Except Err α → Option Err
  | .ok _ => none
  | .error e => some e

theorem exists_of_okB {ε α : Type} {r : Except ε α} (h : okB r = true) : ∃ x, r = .ok x := by
  cases r with
  | ok x => exact ⟨x, rfl⟩
  | error e => cases h

theorem apply_eq_step_of_ok {S : State} {op : Op} (h : okB (apply S op) = true) : apply S op = .ok (step S op) := by
  unfold step
  cases hr : apply S op with
  | ok x => rfl
  | error e => rw [hr] at h; cases h

theorem rotateByHolder_eq_step_of_ok {S : State} {m : HolderMsg} (h : okB (rotateByHolder S m) = true) :
    rotateByHolder S m = .ok (step S (.rotateHolder m)) := apply_eq_step_of_ok (op := .rotateHolder m) h

theorem rotateBySecret_eq_step_of_ok {S : State} {m : SecretMsg} (h : okB (rotateBySecret S m) = true) :
    rotateBySecret S m = .ok (step S (.rotateSecret m)) := apply_eq_step_of_ok (op := .rotateSecret m) h

theorem eq_error_of_errOf {α : Type} {r : Except Err α} {e : Err} (h : errOf r = some e) : r = .error e := by
  cases r with
  | ok x => cases h
  | error e' => simp only [errOf] at h; cases h; rfl

/-- the OTHER order (a regression the harness is mutation-tested with): `AddValidator(new)` then `RemoveValidator` of
the same consensus key deletes the index entry that was just written -/
def moveValWrongOrder (old new : Addr) (S : State) : State :=
  match S.vals old with
  | none => S
  | some v => removeValidator old v (addValidator new v S)

theorem moveValWrongOrder_breaks {S : State} {old new : Addr} {v : Val} (hv : S.vals old = some v) (hne : old ≠ new) :
    (moveValWrongOrder old new S).vals new = some v ∧ (moveValWrongOrder old new S).byCons v.cons = none := by
  unfold moveValWrongOrder
  rw [hv]
  simp [addValidator, removeValidator, Ne.symm hne]

end Sekai.Recovery

namespace Sekai.Props.REC
open Sekai.Recovery

/-! ## rotation by a holder of half of the recovery tokens (C03) -/

/-- the registry / proposal part of a rotation `old → new` cannot panic: no stored proposal is corrupt, the index of the
old address is not dangling and no other address holds the same value under a unique key. Only "the checks hold ⟹ accepted"
needs it (`rotate_by_holder_only_if` has no side condition) -/
def Clean (S : State) (old new : Addr) : Prop :=
  S.corrupt = false ∧ ∃ R, moveIdentity old new S.reg = .ok R

/-- ACCEPTED ⟹ the token exists, the signer holds at least half of the bank supply (`2·held ≥ supply`), the target was
never rotated away from — for every state and message, without side conditions -/
theorem rotate_by_holder_only_if {S S' : State} {m : HolderMsg} (h : rotateByHolder S m = .ok S') :
    ∃ tok, S.token m.addr = some tok ∧ S.supply tok.denom ≤ 2 * S.bal m.holder tok.denom ∧ S.rotated m.recovery = none := by
  obtain ⟨tok, R, c, _, hc⟩ := rotateByHolder_ok h
  exact ⟨tok, hc.token, Int.not_lt.mp hc.half, hc.fresh⟩

/-- the decision of `RotateValidatorByHalfRRTokenHolder`, exactly: accepted IFF token ∧ 2·held ≥ supply ∧ no rotation
history at the target (when the registry part cannot panic) -/
theorem rotate_by_holder_iff (S : State) (m : HolderMsg) (hc : Clean S m.addr m.recovery) :
    (∃ S', rotateByHolder S m = .ok S') ↔
      ∃ tok, S.token m.addr = some tok ∧ S.supply tok.denom ≤ 2 * S.bal m.holder tok.denom ∧ S.rotated m.recovery = none := by
  constructor
  · rintro ⟨S', h⟩; exact rotate_by_holder_only_if h
  · rintro ⟨tok, ht, hth, hr⟩
    obtain ⟨hcor, R, hR⟩ := hc
    exact rotateByHolder_of_checks
      { token := ht, half := Int.not_lt.mpr hth, fresh := hr, reg := hR, proposals := moveProposals_eq_ok.mpr ⟨hcor, rfl⟩ }

/-- below half is REJECTED with `ErrNotEnoughRRTokenAmountForRotation`, whatever else holds -/
theorem rotate_by_holder_rejects_below_half {S : State} {m : HolderMsg} {tok : Token} (ht : S.token m.addr = some tok)
    (hlt : 2 * S.bal m.holder tok.denom < S.supply tok.denom) : rotateByHolder S m = .error .notEnoughRR := by
  unfold rotateByHolder
  rw [ht]
  simp only
  rw [if_pos hlt]

/-- the boundary: with an ODD supply, holding `floor(supply/2)` is not enough -/
theorem rotate_by_holder_floor_of_odd_rejected {S : State} {m : HolderMsg} {tok : Token} (ht : S.token m.addr = some tok)
    (hodd : S.supply tok.denom % 2 = 1) (hheld : S.bal m.holder tok.denom = S.supply tok.denom / 2) :
    rotateByHolder S m = .error .notEnoughRR :=
  rotate_by_holder_rejects_below_half ht (by omega)

/-- … and `ceil(supply/2)` is enough (the threshold test passes) -/
theorem rotate_by_holder_ceil_passes {S : State} {m : HolderMsg} {tok : Token}
    (hheld : S.bal m.holder tok.denom = (S.supply tok.denom + 1) / 2) :
    ¬ (2 * S.bal m.holder tok.denom < S.supply tok.denom) := by omega

/-- everything of the named validator arrives at `msg.Recovery`, payload unchanged: the token record, the
validator record (with its consensus-address index entry), councilor, actor, votes, staking pool, non-zero delegator
rewards, delegator flags of existing pools, the compound info -/
theorem rotate_by_holder_moves_to_beneficiary {S S' : State} {m : HolderMsg} (h : rotateByHolder S m = .ok S') :
    S'.token m.recovery = S.token m.addr ∧
    (∀ v, S.vals m.addr = some v → S'.vals m.recovery = some v ∧ S'.byCons v.cons = some m.recovery) ∧
    (∀ s v, S.claims .councilor s m.addr = some v → S'.claims .councilor s m.recovery = some v) ∧
    (∀ s v, S.claims .actor s m.addr = some v → S'.claims .actor s m.recovery = some v) ∧
    (∀ s v, S.claims .vote s m.addr = some v → S'.claims .vote s m.recovery = some v) ∧
    (∀ v, S.claims .pool 0 m.addr = some v → S'.claims .pool 0 m.recovery = some v) ∧
    (∀ v, S.claims .rewards 0 m.addr = some v → v ≠ 0 → S'.claims .rewards 0 m.recovery = some v) ∧
    (∀ s v, S.claims .delegator s m.addr = some v → S.poolIds.contains s = true → S'.claims .delegator s m.recovery = some v) ∧
    S'.claims .compound 0 m.recovery = some ((S.claims .compound 0 m.addr).getD 0) := by
  obtain ⟨tok, R, c, rfl, hc⟩ := rotateByHolder_ok h
  dsimp only
  refine ⟨?_, ?_, ?_, ?_, ?_, ?_, ?_, ?_, ?_⟩
  · exact (if_pos rfl).trans hc.token.symm
  · intro v hv
    simp only [moveVal_eq, hv, if_true]
    exact ⟨carry_new hv, trivial⟩
  · exact fun s v hv => carryIf_new (holderCarried_whole (by simp) s) hv
  · exact fun s v hv => carryIf_new (holderCarried_whole (by simp) s) hv
  · exact fun s v hv => carryIf_new (holderCarried_whole (by simp) s) hv
  · exact fun v hv => carryIf_new holderCarried_pool hv
  · exact fun v hv hv0 => carryIf_new (holderCarried_rewards hv hv0) hv
  · exact fun s v hv hp => carryIf_new (holderCarried_delegator hp) hv
  · -- the compound info is in none of the stores carried over: what `moveCompound` wrote is still there
    rw [carryIf_apply, if_neg not_holderCarried_compound]
    simp only [moveCompound, and_self, if_true]

/-! ## rotation by the recovery secret (C03) -/

/-- `RotateRecoveryAddress` succeeds ONLY with the proof that matches the stored challenge — every state, every message -/
theorem rotate_by_secret_requires_proof {S S' : State} {m : SecretMsg} (h : rotateBySecret S m = .ok S') :
    ∃ ch, S.secret m.addr = some ch ∧ m.proof = some ch := by
  obtain ⟨S1, R, c, _, hc⟩ := rotateBySecret_ok h
  exact hc.proof

/-- without a recovery record, or with any other proof (wrong secret, not hex), the rotation is rejected -/
theorem rotate_by_secret_rejects_other_proofs {S : State} {m : SecretMsg}
    (hbad : ∀ ch, S.secret m.addr = some ch → m.proof ≠ some ch) : ∀ S', rotateBySecret S m ≠ .ok S' := by
  intro S' h
  obtain ⟨ch, hs, hp⟩ := rotate_by_secret_requires_proof h
  exact hbad ch hs hp

/-- the same holds for replacing an existing secret: only with the proof of the OLD one -/
theorem replace_secret_requires_proof {S S' : State} {a : Addr} {c : Nat} {p : Option Nat} (h : registerSecret S a c p = .ok S')
    {ch : Nat} (hs : S.secret a = some ch) : p = some ch :=
  (registerSecret_ok h).2.1 ch hs

/-- nobody else's coins or claims change, except that the fee payer pays exactly the fee (to the module account) -/
theorem rotate_by_secret_others_untouched {S S' : State} {m : SecretMsg} (h : rotateBySecret S m = .ok S') :
    S'.supply = S.supply ∧ S'.secret = S.secret ∧ S'.hRewards = S.hRewards ∧
    ∀ a, a ≠ m.addr → a ≠ m.recovery → a ≠ modAcc →
      (∀ d, S'.bal a d = if a = m.feePayer ∧ d = ukex then S.bal a d - recoveryFee else S.bal a d) ∧
      (∀ k s, S'.claims k s a = S.claims k s a) ∧ S'.vals a = S.vals a ∧ S'.token a = S.token a := by
  obtain ⟨S1, hs, hf⟩ := rotateBySecret_frame h
  -- the frame is over the state after the fee, which differs from `S` in balances and account flags only
  rw [send_writes hs] at hf
  refine ⟨hf.supply, hf.secret, hf.hRewards, fun a ha hb hm => ⟨fun d => ?_, fun k s => hf.claims k s a ha hb, hf.vals a ha hb, hf.token a ha hb⟩⟩
  rw [hf.bal a d ha hb]
  show S1.bal a d = _
  by_cases hap : a = m.feePayer
  · by_cases hd : d = ukex
    · rw [if_pos ⟨hap, hd⟩, hap, hd, send_bal_src hs (hap ▸ hm)]
    · rw [if_neg (fun e => hd e.2), send_bal hs, if_neg hd]
  · rw [if_neg (fun e => hap e.1)]
    exact send_bal_other hs a d hap hm

/-! ## the non-signer frame of every recovery operation (C03) -/

/-- the accounts an operation may change: signer(s), the rotated address, the beneficiary, the module / fee-collector
accounts it pays through; for a reward allocation also the registered holders, who can only gain -/
def touched (S : State) : Op → List Addr
  | .register a _ _ => [a]
  | .rotateSecret m => [m.feePayer, m.addr, m.recovery, modAcc]
  | .rotateHolder m => [m.addr, m.recovery]
  | .issue a => [a, modAcc]
  | .burn a _ _ => [a, modAcc]
  | .claim a => [a, modAcc]
  | .regHolder _ => []
  | .allocate v _ => v :: feeAcc :: modAcc :: (match S.token v with | some tok => holdersOf S tok.denom | none => [])
  | .xfer a b _ _ => [a, b]

def SameView (a : Addr) (S S' : State) : Prop :=
  (∀ d, S'.bal a d = S.bal a d) ∧ (∀ k s, S'.claims k s a = S.claims k s a) ∧ S'.vals a = S.vals a ∧
  S'.secret a = S.secret a ∧ S'.hRewards a = S.hRewards a

theorem sameView_of_send {S S' : State} {src dst : Addr} {d : Denom} {amt : Int} (h : send S src dst d amt = .ok S') {a : Addr}
    (h1 : a ≠ src) (h2 : a ≠ dst) : SameView a S S' := by
  have e := fun d' => send_bal_other h a d' h1 h2
  rw [send_writes h]
  exact ⟨e, fun _ _ => rfl, rfl, rfl, rfl⟩

/-- EVERY recovery operation (accepted or rejected) leaves the coins and the recorded claims of every account other than
the signer, the rotated address and the beneficiary exactly as they were. The accounts excepted are those of `touched`
above, not `Op.signers`: a signer who pays nothing (the holder who rotates) is not among them -/
theorem non_signer_frame (S : State) (op : Op) (a : Addr) (ha : a ∉ touched S op) : SameView a S (step S op) := by
  refine step_cases ⟨fun _ => rfl, fun _ _ => rfl, rfl, rfl, rfl⟩ fun S' hap => ?_
  cases op with
  | register b c p =>
    obtain ⟨_, _, rfl⟩ := registerSecret_ok hap
    exact ⟨fun _ => rfl, fun _ _ => rfl, rfl, if_neg (by simpa [touched] using ha), rfl⟩
  | rotateSecret m =>
    obtain ⟨hp, h1, h2, h3⟩ : a ≠ m.feePayer ∧ a ≠ m.addr ∧ a ≠ m.recovery ∧ a ≠ modAcc := by simpa [touched] using ha
    obtain ⟨hsup, hsec, hrw, hall⟩ := rotate_by_secret_others_untouched hap
    obtain ⟨hb, hc, hv, _⟩ := hall a h1 h2 h3
    exact ⟨fun d => by rw [hb d, if_neg (fun e => hp e.1)], hc, hv, by rw [hsec], by rw [hrw]⟩
  | rotateHolder m =>
    obtain ⟨h1, h2⟩ : a ≠ m.addr ∧ a ≠ m.recovery := by simpa [touched] using ha
    -- a holder rotation moves NO coin; claims and validator record of a third address: `RotFrame`
    have hf := rotateByHolder_frame hap
    obtain ⟨tok, R, c, rfl, _⟩ := rotateByHolder_ok hap
    exact ⟨fun _ => rfl, fun k s => hf.claims k s a h1 h2, hf.vals a h1 h2, rfl, rfl⟩
  | issue b =>
    obtain ⟨h1, h2⟩ : a ≠ b ∧ a ≠ modAcc := by simpa [touched] using ha
    obtain ⟨S1, S3, rfl, _, hs1, _, hs3⟩ := issue_ok hap
    refine ⟨fun d => ?_, fun _ _ => rfl, rfl, rfl, rfl⟩
    show S3.bal a d = S.bal a d
    rw [send_bal_other hs3 a d h2 h1, ← send_bal_other hs1 a d h1 h2]
    rw [mint_bal, if_neg (fun e => h2 e.1)]
  | burn b d n =>
    obtain ⟨h1, h2⟩ : a ≠ b ∧ a ≠ modAcc := by simpa [touched] using ha
    obtain ⟨owner, tok, S1, S2, S3, rfl, hs⟩ := burn_ok hap
    refine ⟨fun d' => ?_, fun _ _ => rfl, rfl, rfl, rfl⟩
    show S3.bal a d' = S.bal a d'
    obtain ⟨_, _, rfl⟩ := burnCoins_ok hs.burnt
    simp only [h2, false_and, if_false]
    rw [send_bal_other hs.taken a d' h1 h2]
    rcases payRedeem_ok hs.redeem with ⟨_, rfl⟩ | ⟨_, hs⟩
    · rfl
    · exact send_bal_other hs a d' h2 h1
  | claim b =>
    obtain ⟨h1, h2⟩ : a ≠ b ∧ a ≠ modAcc := by simpa [touched] using ha
    obtain ⟨S1, hs, rfl⟩ := claim_ok hap
    exact ⟨fun d => send_bal_other hs a d h2 h1, fun _ _ => rfl, rfl, rfl, if_neg h1⟩
  | regHolder b =>
    obtain ⟨hs, rfl, _⟩ := registerHolder_ok hap
    exact ⟨fun _ => rfl, fun _ _ => rfl, rfl, rfl, rfl⟩
  | allocate v n =>
    obtain ⟨h1, h2, h3, hh⟩ : a ≠ v ∧ a ≠ feeAcc ∧ a ≠ modAcc ∧ a ∉ _ := by simpa [touched] using ha
    rcases allocate_ok hap with ⟨_, hs⟩ | ⟨tok, S1, S2, rfl, ht, hs, rfl, _⟩
    · exact sameView_of_send hs h2 h1
    · refine ⟨fun d => send_bal_other hs a d h2 h3, fun _ _ => rfl, rfl, rfl, creditAll_other _ _ _ _ _ _ _ fun hmem => hh ?_⟩
      rw [ht]
      exact mem_holdersOf_unregisterLow (send_frame hs).holders hmem
  | xfer b c d n =>
    obtain ⟨h1, h2⟩ : a ≠ b ∧ a ≠ c := by simpa [touched] using ha
    exact sameView_of_send hap h1 h2

/-- six funded accounts `0..5` (10¹² ukex each) with x/auth accounts; `0` and `1` are validators (consensus keys 0, 1) with
monikers `alpha` / `Bravo`, staking pools 1 / 2 and unclaimed delegator rewards 700 / 900; account `2` has the moniker
`carol` (verified by 1); accounts `3`, `4`, `5` have no moniker; addresses `6`, `7`, … are fresh -/
def s0 : State :=
  { bal := fun a d => if d = "ukex" ∧ a < 6 then 1000000000000 else 0,
    supply := fun d => if d = "ukex" then 6000000000000 else 0,
    denoms := ["ukex"],
    hasAcc := fun a => decide (a < 6),
    vals := fun a => if a = 0 then some ⟨0, 1⟩ else if a = 1 then some ⟨1, 1⟩ else none,
    byCons := fun c => if c = 0 then some 0 else if c = 1 then some 1 else none,
    reg := { recs := [⟨1, 0, "moniker", "alpha", 7, []⟩, ⟨2, 1, "moniker", "Bravo", 7, []⟩, ⟨3, 2, "moniker", "carol", 7, [1]⟩],
             idx := [⟨0, "moniker", 1⟩, ⟨1, "moniker", 2⟩, ⟨2, "moniker", 3⟩] },
    claims := fun k s a => if k = .rewards ∧ s = 0 ∧ a = 0 then some 700 else if k = .rewards ∧ s = 0 ∧ a = 1 then some 900
      else if k = .pool ∧ s = 0 ∧ a = 0 then some 1 else if k = .pool ∧ s = 0 ∧ a = 1 then some 2 else none,
    poolIds := [1, 2],
    order := [0, 1, 2, 3, 4, 5, 6, 7] }

/-- validator 0 issued its tokens and gave half of them to account 2 -/
def sIssued : State := run s0 [.issue 0, .xfer 0 2 "rr/alpha" 5000000000000]

/-- the holder of exactly half rotates validator 0 to the fresh address 6 -/
example : ∃ S', rotateByHolder sIssued ⟨2, 0, 6⟩ = .ok S' ∧ S'.vals 6 = some ⟨0, 1⟩ ∧ S'.byCons 0 = some 6 ∧ S'.vals 0 = none ∧
    S'.claims .pool 0 6 = some 1 ∧ S'.claims .rewards 0 6 = some 700 ∧ S'.claims .rewards 0 1 = some 900 ∧
    (S'.token 6).map (·.denom) = some "rr/alpha" ∧ getRec S'.reg 1 = some ⟨1, 6, "moniker", "alpha", 7, []⟩ :=
  ⟨step sIssued (.rotateHolder ⟨2, 0, 6⟩), rotateByHolder_eq_step_of_ok (by decide +kernel), by decide +kernel⟩

/-- one token burnt (odd supply 10¹³−1): the holder of `floor(supply/2)` = 4 999 999 999 999 is rejected, one more token and
it is accepted — `rotate_by_holder_floor_of_odd_rejected` at work -/
example : rotateByHolder (run sIssued [.burn 0 "rr/alpha" 1, .xfer 2 0 "rr/alpha" 1]) ⟨2, 0, 6⟩ = .error .notEnoughRR ∧
    okB (rotateByHolder (run sIssued [.burn 0 "rr/alpha" 1]) ⟨2, 0, 6⟩) = true :=
  ⟨eq_error_of_errOf (by decide +kernel), by decide +kernel⟩

example : Clean sIssued 0 6 := ⟨by decide +kernel, exists_of_okB (by decide +kernel)⟩

/-- rotation by secret: account 2 registers a secret (digest 41), rotates to 6 with the matching proof; a wrong proof and
a non-hex proof are rejected; the fee payer 3 pays exactly the fee -/
example : (match rotateBySecret (run s0 [.register 2 41 none]) ⟨3, 2, 6, some 41⟩ with
      | .ok S' => S'.bal 6 "ukex" == 1000000000000 && S'.bal 2 "ukex" == 0 && S'.bal 3 "ukex" == 999000000000 &&
          getRec S'.reg 3 == some ⟨3, 6, "moniker", "carol", 7, [1]⟩
      | .error _ => false) = true ∧
    rotateBySecret (run s0 [.register 2 41 none]) ⟨3, 2, 6, some 42⟩ = .error .invalidProof ∧
    rotateBySecret (run s0 [.register 2 41 none]) ⟨3, 2, 6, none⟩ = .error .badHex ∧
    rotateBySecret s0 ⟨3, 2, 6, some 41⟩ = .error .recordMissing :=
  ⟨by decide +kernel, eq_error_of_errOf (by decide +kernel), eq_error_of_errOf (by decide +kernel), eq_error_of_errOf (by decide +kernel)⟩

/-- the frame is not vacuous: account 1 (validator, pool, rewards) is outside `touched` of the rotation of 0 -/
example : 1 ∉ touched sIssued (.rotateHolder ⟨2, 0, 6⟩) ∧ (sIssued.claims .rewards 0 1 = some 900) := by
  constructor <;> decide +kernel

/-! ## C03: what the beneficiary itself can lose (finding) -/

/-- full statement: an accepted rotation never takes anything away from the target address -/
def beneficiary_keeps_claims_full : Prop :=
  ∀ (S S' : State) (m : HolderMsg), rotateByHolder S m = .ok S' → m.recovery ≠ m.addr →
    (∀ k s v, S.claims k s m.recovery = some v → S'.claims k s m.recovery = some v) ∧
    (∀ v, S.vals m.recovery = some v → S'.vals m.recovery = some v)

/-- counterexample (`C03/recovery/rotation-overwrites-target-claims`): the holder of all tokens of validator 0 names
validator 1 as the target — nothing requires 1 to agree; 1's unclaimed rewards (900) become 700 and its validator record
(consensus key 1) is overwritten with the record of 0 -/
theorem beneficiary_keeps_claims_counterexample : ¬ beneficiary_keeps_claims_full := by
  intro h
  have k : okB (rotateByHolder (run s0 [.issue 0]) ⟨0, 0, 1⟩) = true ∧ (run s0 [.issue 0]).claims .rewards 0 1 = some 900 ∧
      (step (run s0 [.issue 0]) (.rotateHolder ⟨0, 0, 1⟩)).claims .rewards 0 1 = some 700 := by decide +kernel
  have e := (h _ _ _ (rotateByHolder_eq_step_of_ok k.1) (by decide)).1 .rewards 0 900 k.2.1
  rw [k.2.2] at e; cases e

/-- with a target that holds nothing (the shape the harness generates most of the time) nothing is lost -/
theorem beneficiary_keeps_claims_partial {S S' : State} {m : HolderMsg} (_h : rotateByHolder S m = .ok S')
    (hfresh : (∀ k s, S.claims k s m.recovery = none) ∧ S.vals m.recovery = none) :
    (∀ k s v, S.claims k s m.recovery = some v → S'.claims k s m.recovery = some v) ∧
    (∀ v, S.vals m.recovery = some v → S'.vals m.recovery = some v) :=
  ⟨fun k s v hv => (by rw [hfresh.1 k s] at hv; cases hv), fun v hv => (by rw [hfresh.2] at hv; cases hv)⟩

example : (∀ k s, s0.claims k s 6 = none) ∧ s0.vals 6 = none := ⟨fun k s => by simp [s0], by simp [s0]⟩

/-! ## C04: backing, what a burn pays, supply = record (and the C03 finding that the denomination collision allows) -/

/-- for every operation list (addresses inside the range; the module accounts occur as recipients of a bank send only): the recovery module
account holds at least Σ recorded underlying tokens + Σ recorded holder rewards; recorded underlying amounts are never
negative; every record and every reward entry lies inside the range -/
theorem backing_invariant {n : Nat} (ops : List Op) {S : State} (hb : Backed n S) (hw : ∀ op ∈ ops, op.within n) :
    Backed n (run S ops) :=
  List.foldlRecOn ops step hb fun _ h op hop => backed_step op h (hw op hop)

/-- every genesis without recovery records is backed -/
theorem backed_genesis (n : Nat) (S : State) (h1 : ∀ a, S.token a = none) (h2 : ∀ a, S.hRewards a = 0) (h3 : S.holders = [])
    (h4 : 0 ≤ S.bal modAcc ukex) : Backed n S := by
  refine ⟨?_, fun a t ht => (by rw [h1] at ht; cases ht), fun h hh => (by rw [h3] at hh; cases hh),
    fun a t ht => (by rw [h1] at ht; cases ht), fun a ha => absurd (h2 a) ha⟩
  unfold owed
  rw [sumF_zero _ n (fun a _ => by simp [und, h1]), sumF_zero _ n (fun a _ => h2 a)]
  exact h4

example : Backed 10 s0 := backed_genesis 10 s0 (fun _ => rfl) (fun _ => rfl) rfl (by decide +kernel)

/-- the example history keeps the module backed: bond 3·10¹¹ recorded, 3·10¹¹ + fee held -/
example : Backed 10 (run s0 [.issue 0, .xfer 0 2 "rr/alpha" 5000000000000, .burn 2 "rr/alpha" 3, .register 2 41 none,
    .rotateSecret ⟨3, 2, 6, some 41⟩, .rotateHolder ⟨6, 0, 7⟩]) :=
  backing_invariant _ (backed_genesis 10 s0 (fun _ => rfl) (fun _ => rfl) rfl (by decide +kernel)) (by
    intro op hop
    simp only [List.mem_cons, List.mem_nil_iff, or_false] at hop
    rcases hop with rfl | rfl | rfl | rfl | rfl | rfl <;> simp [Op.within, User, modAcc, feeAcc])

/-- a burn pays the floor of the pro-rata share, never more: `redeem · RrSupply ≤ underlying · amount` -/
theorem burn_le_pro_rata (tok : Token) (amt : Int) (h1 : 0 < tok.rrSupply) (h2 : 0 ≤ tok.underlying) (h3 : 0 ≤ amt) :
    redeemOf tok amt * tok.rrSupply ≤ tok.underlying * amt := by
  unfold redeemOf
  have hx : 0 ≤ tok.underlying * amt := Int.mul_nonneg h2 h3
  split
  · rw [Int.tdiv_eq_ediv_of_nonneg hx]
    exact Int.ediv_mul_le _ (by omega)
  · simpa using hx

/-- … and what the burner receives is exactly `redeemOf` -/
theorem burn_pays_redeem {S S' : State} {a : Addr} {d : Denom} {amt : Int} (h : burn S a d amt = .ok S') (ha : a ≠ modAcc)
    (hd : d ≠ ukex) :
    ∃ owner tok, S.byDenom d = some owner ∧ S.token owner = some tok ∧ S'.bal a ukex = S.bal a ukex + redeemOf tok amt := by
  obtain ⟨owner, tok, S1, S2, S3, rfl, hs⟩ := burn_ok h
  refine ⟨owner, tok, hs.byDenom, hs.token, ?_⟩
  show S3.bal a ukex = _
  obtain ⟨_, _, rfl⟩ := burnCoins_ok hs.burnt
  have e2 : S2.bal a ukex = S1.bal a ukex := by rw [send_bal hs.taken]; simp [Ne.symm hd]
  simp [ha, e2, (payRedeem_bal hs.redeem ha).2]

example : redeemOf ⟨"rr/alpha", 10000000000000, 300000000000⟩ 3 = 0 ∧ redeemOf ⟨"rr/alpha", 9999999999999, 300000000000⟩ 333333333 = 9999999 := by
  constructor <;> decide +kernel

/-- issue and burn are the ONLY operations that change the bank supply of any denomination -/
theorem only_issue_burn_change_supply (S : State) (op : Op) (d : Denom) (h : (step S op).supply d ≠ S.supply d) :
    (∃ a, op = .issue a ∧ d = rrDenom S a) ∨ (∃ a n, op = .burn a d n) := by
  revert h
  refine step_cases (P := fun T => T.supply d ≠ S.supply d → _) (fun h => absurd rfl h) fun S' hap h => ?_
  cases op with
  | issue b =>
    obtain ⟨S1, S3, rfl, _⟩ := issue_ok hap
    refine .inl ⟨b, rfl, Decidable.by_contra fun hd => h ?_⟩
    exact if_neg hd
  | burn b d' n =>
    obtain ⟨_, _, _, _, _, rfl, _⟩ := burn_ok hap
    by_cases hd : d = d'
    · subst hd; exact .inr ⟨b, n, rfl⟩
    · exact absurd (if_neg hd) h
  | _ =>
    -- the remaining operations do not write `supply` (`apply_writes`)
    have e : S' = _ := apply_writes hap
    rw [e] at h
    exact absurd rfl h

example : (step s0 (.issue 0)).supply "rr/alpha" ≠ s0.supply "rr/alpha" := by decide +kernel

/-- full statement: in every reachable state the bank supply of each recovery denomination equals the recorded
`RrSupply`, and the by-denom index and the token store agree -/
def rr_supply_eq_record_full : Prop := ∀ (S : State) (ops : List Op), TokInv S → TokInv (run S ops)

theorem tokInv_s0 : TokInv s0 := ⟨fun a t h => (by cases h), fun d a h => (by cases h)⟩

/-- counterexample 1 (`C04/recovery/denom-collision-breaks-backing`): accounts 3 and 4 have no moniker record;
`GetIdRecordsByAddressAndKeys` returns a placeholder with the empty value, so BOTH mint `rr/` — 2·10¹³ in the bank, two
records of 10¹³ each, one index entry -/
theorem rr_supply_eq_record_counterexample : ¬ rr_supply_eq_record_full := by
  intro h
  have hi := h s0 [.issue 3, .issue 4] tokInv_s0
  have k : (run s0 [.issue 3, .issue 4]).token 4 = some ⟨"rr/", 10000000000000, 300000000000⟩ ∧
      (run s0 [.issue 3, .issue 4]).supply "rr/" = 20000000000000 := by decide +kernel
  have := (hi.byAddr 4 _ k.1).1
  simp only at this
  rw [k.2] at this
  exact absurd this (by decide)

/-- … with which a namesake rotates a stranger (`C03/recovery/denom-collision-lets-stranger-rotate`): account 3 holds
only the tokens it minted for itself, exactly half of the colliding supply, and moves account 4's records to address 6 -/
theorem namesake_rotates_stranger :
    (match rotateByHolder (run s0 [.issue 3, .issue 4]) ⟨3, 4, 6⟩ with
      | .ok S' => S'.token 4 == none && (S'.token 6).isSome | .error _ => false) = true := by decide +kernel

/-- counterexample 2 (`C04/recovery/rotation-onto-issuer-orphans-token`): validator 0 is rotated onto validator 1, which
issued tokens itself: 1's record is overwritten, its index entry `rr/bravo ↦ 1` now leads to the record of `rr/alpha` -/
theorem rr_supply_eq_record_counterexample2 : ¬ rr_supply_eq_record_full := by
  intro h
  have hi := h s0 [.issue 0, .issue 1, .rotateHolder ⟨0, 0, 1⟩] tokInv_s0
  have k : (run s0 [.issue 0, .issue 1, .rotateHolder ⟨0, 0, 1⟩]).byDenom "rr/bravo" = some 1 ∧
      (run s0 [.issue 0, .issue 1, .rotateHolder ⟨0, 0, 1⟩]).token 1 = some ⟨"rr/alpha", 10000000000000, 300000000000⟩ := by
    decide +kernel
  obtain ⟨t, ht, hd⟩ := hi.byDen _ _ k.1
  rw [k.2] at ht; cases ht
  exact absurd hd (by decide)

/-- for all histories without those two shapes (an issue whose denomination is already in circulation, a holder rotation
onto an address that issued tokens): supply = record, index ↔ store, for every record -/
theorem rr_supply_eq_record_partial (ops : List Op) {S : State} (hi : TokInv S) (hg : GoodRun S ops) : TokInv (run S ops) := by
  induction ops generalizing S with
  | nil => exact hi
  | cons op rest ih =>
    simp only [run, List.foldl_cons]
    exact ih (tokInv_step op hi hg.1) hg.2

/-- under the invariant two issuers never share a denomination (so a holding identifies whose tokens it is) -/
theorem distinct_denoms {S : State} (hi : TokInv S) {a b : Addr} {ta tb : Token} (ha : S.token a = some ta) (hb : S.token b = some tb)
    (hd : ta.denom = tb.denom) : a = b := hi.owner hb ha hd

example : GoodRun s0 [.issue 0, .xfer 0 2 "rr/alpha" 5000000000000, .burn 2 "rr/alpha" 3, .rotateHolder ⟨2, 0, 6⟩] := by
  refine ⟨?_, trivial, trivial, ?_, trivial⟩
  · show s0.supply (rrDenom s0 0) = 0
    decide +kernel
  · left; decide +kernel

/-! ## C16: identity records through a rotation -/

/-- BOTH rotations: exactly the records the index of the old address lists are re-addressed to `msg.Recovery` — id, value,
date and verifiers unchanged, key re-formalised — and every other record is untouched -/
theorem records_moved_unchanged {S S' : State} {old new : Addr}
    (h : (∃ m : SecretMsg, m.addr = old ∧ m.recovery = new ∧ rotateBySecret S m = .ok S') ∨
         (∃ m : HolderMsg, m.addr = old ∧ m.recovery = new ∧ rotateByHolder S m = .ok S')) (id : Nat) :
    getRec S'.reg id = if id ∈ idsOf S.reg old then (getRec S.reg id).map (retarget new) else getRec S.reg id :=
  moveIdentity_spec (Rotates.effect h).reg id

/-- stored keys are lower-case (every writer formalises the key), so `retarget` changes the address only -/
theorem retarget_of_lower (new : Addr) (r : IdRec) (h : Sekai.Ident.lower r.key = r.key) : retarget new r = { r with addr := new } := by
  unfold retarget; rw [h]

/-- full statement: a rotation of `old` leaves the records of every OTHER address untouched -/
def records_of_others_untouched_full : Prop :=
  ∀ (S S' : State) (m : SecretMsg), rotateBySecret S m = .ok S' →
    ∀ id r, getRec S.reg id = some r → r.addr ≠ m.addr → getRec S'.reg id = some r

/-- counterexample (`C16/recovery/second-rotation-moves-successor-records`): `DeleteIdentityRecordById` leaves the index
entry of the old address behind; account 2 rotates to 6, then (its recovery record and account still exist) to 7 — the
second rotation walks 2's stale index and takes the moniker record away from 6, which signed nothing -/
theorem records_of_others_untouched_counterexample : ¬ records_of_others_untouched_full := by
  intro h
  have k : okB (rotateBySecret (run s0 [.register 2 41 none, .rotateSecret ⟨2, 2, 6, some 41⟩]) ⟨3, 2, 7, some 41⟩) = true ∧
      getRec (run s0 [.register 2 41 none, .rotateSecret ⟨2, 2, 6, some 41⟩]).reg 3 = some ⟨3, 6, "moniker", "carol", 7, [1]⟩ ∧
      getRec (step (run s0 [.register 2 41 none, .rotateSecret ⟨2, 2, 6, some 41⟩]) (.rotateSecret ⟨3, 2, 7, some 41⟩)).reg 3 =
        some ⟨3, 7, "moniker", "carol", 7, [1]⟩ := by decide +kernel
  have := h _ _ _ (rotateBySecret_eq_step_of_ok k.1) 3 _ k.2.1 (by decide)
  rw [k.2.2] at this; cases this

/-- true until `old` has been rotated away once -/
def IdxOwned (R : Reg) (old : Addr) : Prop := ∀ id ∈ idsOf R old, ∀ r, getRec R id = some r → r.addr = old

theorem records_of_others_untouched_partial {S S' : State} {old new : Addr}
    (h : (∃ m : SecretMsg, m.addr = old ∧ m.recovery = new ∧ rotateBySecret S m = .ok S') ∨
         (∃ m : HolderMsg, m.addr = old ∧ m.recovery = new ∧ rotateByHolder S m = .ok S'))
    (ho : IdxOwned S.reg old) {id : Nat} {r : IdRec} (hr : getRec S.reg id = some r) (hne : r.addr ≠ old) :
    getRec S'.reg id = some r := by
  rw [records_moved_unchanged h id]
  by_cases hm : id ∈ idsOf S.reg old
  · exact absurd (ho id hm r hr) hne
  · rw [if_neg hm]; exact hr

example : IdxOwned s0.reg 2 := by
  intro id hid r hr
  have : id = 3 := by simpa [idsOf, s0] using hid
  subst this
  have : r = ⟨3, 2, "moniker", "carol", 7, [1]⟩ := by
    have e : getRec s0.reg 3 = some ⟨3, 2, "moniker", "carol", 7, [1]⟩ := by decide +kernel
    rw [e] at hr; cases hr; rfl
  rw [this]

/-! ## C06: the validator store and block-safety after a rotation -/

/-- for EVERY operation: if every validator record is found through its consensus address before, it is afterwards —
the rotations write `RemoveValidator(old)` THEN `AddValidator(new)`, all other operations do not touch the store -/
theorem validator_index_consistent (S : State) (op : Op) (h : ConsIdx S) : ConsIdx (step S op) := by
  rcases step_valStore S op with ⟨e1, e2⟩ | ⟨old, new, e1, e2⟩
  · exact h.congr e1 e2
  · exact (consIdx_moveVal old new h).congr e1 e2

theorem validator_index_consistent_run (ops : List Op) {S : State} (h : ConsIdx S) : ConsIdx (run S ops) :=
  List.foldlRecOn ops step h fun T hT op _ => validator_index_consistent T op hT

theorem consIdx_s0 : ConsIdx s0 := by
  intro a v hv
  by_cases h0 : a = 0
  · subst h0; have : v = ⟨0, 1⟩ := by simpa [s0] using hv.symm
    subst this; rfl
  · by_cases h1 : a = 1
    · subst h1; have : v = ⟨1, 1⟩ := by simpa [s0] using hv.symm
      subst this; rfl
    · simp [s0, h0, h1] at hv

/-- the next BeginBlock cannot find the validator by its consensus address -/
example : (moveValWrongOrder 0 6 s0).vals 6 = some ⟨0, 1⟩ ∧ (moveValWrongOrder 0 6 s0).byCons 0 = none :=
  moveValWrongOrder_breaks (by rfl) (by decide)

/-- full statement: a block-safe state (no corrupt proposal, every queued validator-set change names a validator record,
every consensus key of the active set leads to a validator record) stays block-safe through an accepted rotation -/
def rotation_keeps_block_safe_full : Prop :=
  ∀ (S S' : State) (m : SecretMsg) (active : List Nat), ConsIdx S → IdxSound S → blockSafe S active = true →
    rotateBySecret S m = .ok S' → blockSafe S' active = true

def sSlash : State := { run s0 [.register 0 41 none] with slashProps := [(1, 0)] }
/-- s0 with a recovery secret for validator 1, which has just sent `MsgPause` (its key is in the removing queue) -/
def sQueued : State := { run s0 [.register 1 41 none] with queue := [1] }

theorem idxSound_s0 : IdxSound s0 := by
  intro c a h
  by_cases h0 : c = 0
  · subst h0; have : a = 0 := by simpa [s0] using h.symm
    subst this; exact ⟨⟨0, 1⟩, rfl, rfl⟩
  · by_cases h1 : c = 1
    · subst h1; have : a = 1 := by simpa [s0] using h.symm
      subst this; exact ⟨⟨1, 1⟩, rfl, rfl⟩
    · simp [s0, h0, h1] at h

/-- counterexample 1 (`C06/recovery/slash-proposal-content-clobbered`): the rotation stores the rotation MESSAGE as the
content of the pending slash proposal against the rotated validator; from then on `GetProposals` panics (EndBlock halts) -/
theorem rotation_keeps_block_safe_counterexample : ¬ rotation_keeps_block_safe_full := by
  intro h
  have k : okB (rotateBySecret sSlash ⟨0, 0, 6, some 41⟩) = true ∧ blockSafe sSlash [0, 1] = true ∧
      blockSafe (step sSlash (.rotateSecret ⟨0, 0, 6, some 41⟩)) [0, 1] = false := by decide +kernel
  have := h sSlash _ _ [0, 1] consIdx_s0 idxSound_s0 k.2.1 (rotateBySecret_eq_step_of_ok k.1)
  rw [k.2.2] at this; cases this

/-- counterexample 2 (`C06/recovery/rotate-with-queued-set-change`): the staking queues are keyed by the operator address
and are not moved; `MsgPause` then the rotation in one block leaves a queue entry without a validator record and
`BlockValidatorUpdates` panics in EndBlock -/
theorem rotation_keeps_block_safe_counterexample2 : ¬ rotation_keeps_block_safe_full := by
  intro h
  have k : okB (rotateBySecret sQueued ⟨1, 1, 6, some 41⟩) = true ∧ blockSafe sQueued [0, 1] = true ∧
      blockSafe (step sQueued (.rotateSecret ⟨1, 1, 6, some 41⟩)) [0, 1] = false := by decide +kernel
  have := h sQueued _ _ [0, 1] consIdx_s0 idxSound_s0 k.2.1 (rotateBySecret_eq_step_of_ok k.1)
  rw [k.2.2] at this; cases this

/-- without those two shapes, and with a target that is not itself a validator: the rotation keeps the state block-safe
— in particular every consensus key of the active set still leads to a validator record (BeginBlock's
`HandleValidatorSignature`), for BOTH rotations -/
theorem rotation_keeps_block_safe_partial {S S' : State} {old new : Addr} {active : List Nat}
    (h : (∃ m : SecretMsg, m.addr = old ∧ m.recovery = new ∧ rotateBySecret S m = .ok S') ∨
         (∃ m : HolderMsg, m.addr = old ∧ m.recovery = new ∧ rotateByHolder S m = .ok S'))
    (hc : ConsIdx S) (hs : IdxSound S) (hb : blockSafe S active = true)
    (hslash : S.slashProps.any (fun p => p.2 = old) = false) (hq : old ∉ S.queue) (hfree : S.vals new = none ∨ new = old) :
    blockSafe S' active = true := by
  have he := Rotates.effect h
  unfold blockSafe at hb ⊢
  simp only [Bool.and_eq_true, Bool.not_eq_true', List.all_eq_true] at hb ⊢
  obtain ⟨⟨hb1, hb2⟩, hb3⟩ := hb
  refine ⟨⟨?_, ?_⟩, ?_⟩
  · exact (moveProposals_eq_ok.mp he.proposals).2.trans hslash
  · intro a ha
    rw [he.queue] at ha
    rw [he.vals]
    exact (moveVal_isSome old new S).1 a (fun e => hq (e ▸ ha)) (hb2 a ha)
  · intro c hcm
    have h3 := hb3 c hcm
    -- the index entry of an active key cannot disappear, and the index stays sound
    have hsome : (S.byCons c).isSome := by
      cases hbo : S.byCons c with
      | none => rw [hbo] at h3; cases h3
      | some a => rfl
    obtain ⟨a, hbc⟩ := Option.isSome_iff_exists.mp ((moveVal_isSome old new S).2 c hsome)
    obtain ⟨u, hu, _⟩ := idxSound_moveVal old new hs hfree c a hbc
    rw [he.byCons, hbc]
    dsimp only
    rw [he.vals, hu]; rfl

example : blockSafe sIssued [0, 1] = true ∧ sIssued.slashProps.any (fun p => p.2 = 0) = false ∧ 0 ∉ sIssued.queue := by
  refine ⟨by decide +kernel, by decide +kernel, by decide +kernel⟩

/-! ## C10: pool ids (the `v<id>/…` share denominations) stay distinct over rotations and pool creations -/

def PoolBound (S : State) : Prop := ∀ a i, S.claims .pool 0 a = some i → i ≤ S.lastPool
def PoolUniq (S : State) : Prop := ∀ a b i, S.claims .pool 0 a = some i → S.claims .pool 0 b = some i → a = b

theorem rotation_keeps_pool_ids {S S' : State} (hb : PoolBound S) (hu : PoolUniq S)
    (h : (∃ m, rotateByHolder S m = .ok S') ∨ (∃ m, rotateBySecret S m = .ok S')) : PoolBound S' ∧ PoolUniq S' := by
  obtain ⟨old, new, hr⟩ : ∃ old new, Rotates S old new S' :=
    h.elim (fun ⟨m, hm⟩ => ⟨_, _, .of_holder hm⟩) (fun ⟨m, hm⟩ => ⟨_, _, .of_secret hm⟩)
  have he := hr.effect
  constructor
  · intro a i hi
    rw [he.pool] at hi
    rw [he.lastPool]
    -- a carried store holds no value the store did not hold
    exact (carry_some hi).elim (fun h => hb _ i h.2) (fun h => hb _ i h.2)
  · intro a b i ha hb'
    rw [he.pool] at ha hb'
    exact carry_inj hu a b i ha hb'

/-- the new pool gets an id no other pool has -/
theorem new_pool_keeps_pool_ids {S S' : State} {a : Addr} (hb : PoolBound S) (hu : PoolUniq S) (h : newPool S a = some S') :
    PoolBound S' ∧ PoolUniq S' := by
  rcases newPool_some h with ⟨i, _, rfl⟩ | ⟨_, e⟩
  · exact ⟨hb, hu⟩
  · have hl : S'.lastPool = S.lastPool + 1 := by rw [e]
    have hc : ∀ b, S'.claims .pool 0 b = if b = a then some (S.lastPool + 1) else S.claims .pool 0 b := fun b => by rw [e]; simp
    constructor
    · intro b i hi
      rw [hc] at hi
      rw [hl]
      by_cases e : b = a
      · rw [if_pos e] at hi; cases hi; exact Nat.le_refl _
      · rw [if_neg e] at hi; exact Nat.le_succ_of_le (hb b i hi)
    · intro b c i hbi hci
      rw [hc] at hbi hci
      by_cases e1 : b = a
      · by_cases e2 : c = a
        · rw [e1, e2]
        · rw [if_pos e1] at hbi; rw [if_neg e2] at hci
          cases hbi
          have := hb c _ hci
          omega
      · rw [if_neg e1] at hbi
        by_cases e2 : c = a
        · rw [if_pos e2] at hci; cases hci
          have := hb b _ hbi
          omega
        · rw [if_neg e2] at hci
          exact hu b c i hbi hci

/-- what goes wrong when a rotation lowers the counter: after moving the newest pool the counter would sit below an id in
use, and the next pool would share it - `PoolBound` is exactly what excludes that -/
example :
    let S : State := { lastPool := 1, claims := fun k s a => if k = Kind.pool ∧ s = 0 ∧ a = 5 then some 2 else none,
                       vals := fun a => if a = 7 then some ⟨0, 0⟩ else none }
    ¬ PoolBound S ∧ ((newPool S 7).map fun S' => S'.claims .pool 0 7) = some (some 2) := by
  constructor
  · intro h; have := h 5 2 (by simp); simp at this
  · simp [newPool]

/-! ### Key spaces (table `Gen.Keys`) -/

theorem recovery_key_spaces_disjoint : Sekai.Keys.disjoint Sekai.Gen.Keys.stores "recovery" = true :=
  Sekai.Keys.disjoint_of_pairwise_apart (by decide +kernel)

end Sekai.Props.REC
