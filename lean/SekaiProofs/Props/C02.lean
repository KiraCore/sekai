import SekaiProofs.Lemmas.Auth
import Sekai.Gen.App
import Sekai.Model.App
/-! # C02 — Transactions are authenticated by every signer and cannot be replayed

Theorems about `Sekai.Auth.anteAuth` (lean/Sekai/Model/Auth.lean), the model of the authentication part of the
ante chain (SetPubKey → ValidateSigCount → SigGasConsume → SigVerification with its Ethereum fallback →
IncrementSequence), for ALL account stores, ALL transactions (any messages, sign modes, signature encodings,
attached keys) and, for replay, ALL later histories. Besides authenticity and replay: what holds of the installation of
public keys (a new key is attached at the account's signer position by a validly signed transaction, a key on record is
never replaced), and two obligations on the generated table of the ante chain.

**Symbolic, hence trusted and not verified:** cryptography (header of the model file). "A forger without the signer's
private key" is read as: whatever is on the transaction, a record whose `key` controls the signer can only have been
produced by the signer (`no_forgery`).

Three theorems called `…_counterexample` are not negations of a `_full` but closed witnesses themselves:
`eip712_type_confusion_counterexample`, `amino_type_confusion_counterexample`, `eth_path_ignores_chain_counterexample`; the
closed witnesses behind the two `…_fee_not_bound_counterexample`s are `eip712_fee_malleable`, `ethereumTx_fee_malleable`.

FALSE of the code:
* "exactly that transaction", in two ways, with five closed counterexamples (the four with a finding id are replayed on the
  real code): the Ethereum fallback
  signs message + nonce only — fee, memo, timeout, attached key and the cosmos chain id are not covered
  (`C02/eip712/fee-and-memo-not-bound`, `C02/ethereum-tx/fee-and-memo-not-bound`, `eth_path_ignores_chain_counterexample`);
  EIP-712 and LEGACY_AMINO_JSON sign bytes do not contain the protobuf type of a message, and several sekai message types
  are otherwise identical (`C02/eip712/message-type-confusion`, `C02/amino/message-type-confusion`).
* `C02_pubkey_full` (a key newly on record controls the account), for Ethereum-style accounts
  (`C02/setpubkey/unbound-key-installed-on-eth-account`). -/
namespace Sekai.Props.C02
open Sekai.Auth

def accepts (env : Env) (A : Accounts) (tx : Tx) : Bool :=
  match anteAuth env A tx with
  | .ok _ => true
  | .error _ => false

theorem accepts_iff (env : Env) (A : Accounts) (tx : Tx) : accepts env A tx = true ↔ ∃ A', anteAuth env A tx = .ok A' := by
  unfold accepts
  cases anteAuth env A tx with
  | ok A' => simp
  | error e => simp

/-- the payload fixes EVERYTHING of the transaction except the signature blobs: body (messages, memo, timeout),
auth info (fee, fee payer, every signer info: attached key, mode, sequence), chain id, account number, and the signer's
sequence is the one given. (LEGACY_AMINO_JSON signs the same minus the signer infos, and shows each message only as
far as its `GetSignBytes()` does — `aminoView`, see `amino_type_confusion_counterexample`.) -/
def bindsWhole (env : Env) (p : Payload) (tx : Tx) (i : Nat) (acc : Account) : Prop :=
  (p = .direct tx.core env.chainId acc.num ∧ (tx.core.infos[i]?).map (·.seq) = some acc.seq) ∨
  p = .amino (tx.core.msgs.map (aminoView env)) tx.core.memo tx.core.timeout tx.core.fee tx.core.payer env.chainId acc.num acc.seq

/-- the payload fixes the messages and the sequence of signer `i` (and nothing else is claimed). For EIP-712 the
message is fixed as far as `GenEIP712SignBytesFromMsg` can see it (`eipView`: `Type()` string + JSON, not the
protobuf type) — see `bindsMsgsSeq_exact` / `eip712_type_confusion_counterexample`. -/
def bindsMsgsSeq (env : Env) (p : Payload) (msgs : List Msg) (i : Nat) (seq : Nat) : Prop :=
  match p with
  | .direct c _ _ => c.msgs = msgs ∧ (c.infos[i]?).map (·.seq) = some seq
  | .amino ms _ _ _ _ _ _ sq => msgs.map (aminoView env) = ms ∧ sq = seq
  | .eip712 m n _ => (∃ m', msgs = [m'] ∧ eipView env m' = m) ∧ n = seq
  | .rawEth n ch ct => (∃ s sb ty, msgs = [Msg.ethTx s ⟨n, ch, ct, sb⟩ ty]) ∧ n = seq
  | .junk _ => False

def embeddedSigs : List Msg → List Sig
  | [] => []
  | .ethTx _ etx _ :: rest =>
    (match etx.signedBy with
     | some k => [⟨k, .rawEth etx.nonce etx.chainId etx.content, .eth65⟩]
     | none => []) ++ embeddedSigs rest
  | .plain .. :: rest => embeddedSigs rest

def allSigs (tx : Tx) : List Sig := tx.sigs ++ embeddedSigs tx.core.msgs

theorem bindsWhole.msgsSeq {env : Env} {p : Payload} {tx : Tx} {i : Nat} {acc : Account}
    (h : bindsWhole env p tx i acc) : bindsMsgsSeq env p tx.core.msgs i acc.seq := by
  rcases h with ⟨rfl, h⟩ | rfl
  · exact ⟨rfl, h⟩
  · exact ⟨rfl, rfl⟩

theorem signBytes_bindsWhole {env : Env} {tx : Tx} {i : Nat} {info : SignerInfo} {acc : Account} {p : Payload}
    (hsb : signBytes env info.mode tx acc.num acc.seq = .ok p) (hinfo : tx.core.infos[i]? = some info)
    (hseq : info.seq = acc.seq) : bindsWhole env p tx i acc := by
  rcases signBytes_ok hsb with ⟨_, rfl⟩ | ⟨_, rfl⟩
  · exact .inl ⟨rfl, by rw [hinfo, ← hseq]; rfl⟩
  · exact .inr rfl

theorem mem_embeddedSigs {msgs : List Msg} {s : Addr} {etx : EthTx} {ty : Nat} {k : Key}
    (hm : Msg.ethTx s etx ty ∈ msgs) (hk : etx.signedBy = some k) :
    (⟨k, .rawEth etx.nonce etx.chainId etx.content, .eth65⟩ : Sig) ∈ embeddedSigs msgs := by
  fun_induction embeddedSigs msgs
  next => cases hm
  next s' e' t' rest ih =>                              -- a `MsgEthereumTx` at the head: its signature, then the rest
    rcases List.mem_cons.mp hm with h | h
    · cases h; simp [hk]
    · exact List.mem_append_right _ (ih h)
  next t c ss rest ih => exact ih ((List.mem_cons.mp hm).resolve_left nofun)    -- another message at the head

/-- `accepted_signer` in the vocabulary of the property -/
theorem accepted_signer_signed {env : Env} {A A' : Accounts} {tx : Tx} (h : anteAuth env A tx = .ok A') {i : Nat}
    {s : Addr} (hs : tx.signers[i]? = some s) :
    ∃ acc pk, A s = some acc ∧ A' s = some { acc with pk := some pk, seq := acc.seq + 1 } ∧
      ((cosmosAddr pk = s ∧ ∃ σ, tx.sigs[i]? = some σ ∧ σ.key = pk ∧ σ.enc = .cosmos64 ∧ bindsWhole env σ.payload tx i acc) ∨
       (cosmosAddr pk ≠ s ∧ ∃ σ ∈ allSigs tx, ethAddr σ.key = s ∧ bindsMsgsSeq env σ.payload tx.core.msgs i acc.seq)) := by
  obtain ⟨acc, info, σ, pk, hsigner⟩ := accepted_signer h hs
  refine ⟨acc, pk, hsigner.account, hsigner.after, ?_⟩
  cases hsigner.auth with
  | std haddr hkey henc hsb =>
    exact .inl ⟨haddr, σ, hsigner.sigAt, hkey, henc, signBytes_bindsWhole hsb hsigner.infoAt hsigner.seqMatches⟩
  | eip712 m haddr _ hmsgs _ _ _ hkey hpl =>
    refine .inr ⟨haddr, σ, List.mem_append_left _ (List.mem_of_getElem? hsigner.sigAt), hkey, ?_⟩
    rw [hpl]
    exact ⟨⟨m, hmsgs, rfl⟩, rfl⟩
  | rawEth k etx ty haddr _ hmsgs hk hks hn _ =>
    refine .inr ⟨haddr, ⟨k, .rawEth etx.nonce etx.chainId etx.content, .eth65⟩, ?_, hks, ⟨s, etx.signedBy, ty, hmsgs⟩, hn⟩
    exact List.mem_append_right _ (mem_embeddedSigs (s := s) (ty := ty) (by simp [hmsgs]) hk)

/-- **Authenticity (holds on the current tree, all inputs).** If the ante chain accepts `tx` in state `A`, then
for every account `s` the transaction names as signer (message signers and the fee payer) there is a signature on
the transaction — one of `Tx.Signatures` or the signature inside its Ethereum transaction — made with a key that
controls `s`, over sign bytes that fix the messages of `tx` (DIRECT / raw Ethereum transaction: exactly; EIP-712 /
LEGACY_AMINO_JSON: as far as those sign bytes show a message, `bindsMsgsSeq_exact`) and the current sequence number
of `s`. Whatever the message types, the sign mode, the signature encoding, the attached public keys and the keys on
record. -/
theorem authentic_msgs {env : Env} {A A' : Accounts} {tx : Tx} (h : anteAuth env A tx = .ok A') :
    ∀ (i : Nat) (s : Addr), tx.signers[i]? = some s →
      ∃ acc, A s = some acc ∧ ∃ σ ∈ allSigs tx, controls σ.key s ∧ bindsMsgsSeq env σ.payload tx.core.msgs i acc.seq := by
  intro i s hs
  obtain ⟨acc, pk, hA, _, hsig⟩ := accepted_signer_signed h hs
  refine ⟨acc, hA, ?_⟩
  rcases hsig with ⟨haddr, σ, hsig, hkey, _, hb⟩ | ⟨_, σ, hmem, hkey, hb⟩
  · exact ⟨σ, List.mem_append_left _ (List.mem_of_getElem? hsig), .inl (hkey ▸ haddr.symm), hb.msgsSeq⟩
  · exact ⟨σ, hmem, .inr hkey.symm, hb⟩

def exEnv : Env := { chainId := 1 }
def exA : Accounts := fun a =>
  if a = .cosmos 1 then some ⟨none, 0, 5⟩ else if a = .eth 2 then some ⟨none, 3, 6⟩
  else if a = .cosmos 3 then some ⟨some 3, 4, 7⟩ else if a = .eth 4 then some ⟨some 9, 2, 8⟩ else none
def exTwo : Core := ⟨[.plain 1 100 [.cosmos 1], .plain 1 50 [.cosmos 3]], 0, 0, 200, none, [⟨some 1, .direct, 0⟩, ⟨none, .amino, 4⟩]⟩
def exTwoTx : Tx := ⟨exTwo, [⟨1, .direct exTwo 1 5, .cosmos64⟩, ⟨3, .amino exTwo.msgs 0 0 200 none 1 7 4, .cosmos64⟩]⟩
def exMsg : Msg := .plain 1 100 [.eth 2]
def exEip : Core := ⟨[exMsg], 0, 0, 200, none, [⟨some 2, .direct, 3⟩]⟩
def exEipSig : Sig := ⟨2, .eip712 exMsg 3 8789, .eth65⟩
def exRaw : Core := ⟨[.ethTx (.eth 4) ⟨2, 8789, 77, some 4⟩ 0], 0, 0, 200, none, [⟨none, .direct, 2⟩]⟩
-- named: the counterexamples and non-vacuity examples further down start from these three evaluations
theorem exTwoTx_accepted : accepts exEnv exA exTwoTx = true := by decide +kernel
theorem exEip_accepted : accepts exEnv exA ⟨exEip, [exEipSig]⟩ = true := by decide +kernel
theorem exRaw_accepted : accepts exEnv exA ⟨exRaw, [⟨0, .junk 0, .cosmos64⟩]⟩ = true := by decide +kernel
example : accepts exEnv exA exTwoTx = true := exTwoTx_accepted
example : accepts exEnv exA ⟨exEip, [exEipSig]⟩ = true := exEip_accepted
example : accepts exEnv exA ⟨exRaw, [⟨0, .junk 0, .cosmos64⟩]⟩ = true := exRaw_accepted
/-- … and forgeries of each are rejected: stranger key 8 signs / is attached / signs the Ethereum transaction -/
example : accepts exEnv exA ⟨exTwo, [⟨8, .direct exTwo 1 5, .cosmos64⟩, ⟨3, .amino exTwo.msgs 0 0 200 none 1 7 4, .cosmos64⟩]⟩ = false := by decide
example : accepts exEnv exA ⟨{ exEip with infos := [⟨some 8, .direct, 3⟩] }, [⟨8, .eip712 exMsg 3 8789, .eth65⟩]⟩ = false := by decide
example : accepts exEnv exA ⟨{ exRaw with msgs := [.ethTx (.eth 4) ⟨2, 8789, 77, some 8⟩ 0] }, [⟨8, .junk 0, .cosmos64⟩]⟩ = false := by decide

/-- **Exactness (partial).** The same signed bytes authorise ONE list of messages and ONE sequence — for DIRECT
always, for EIP-712 / LEGACY_AMINO_JSON under the explicit hypotheses that `GenEIP712SignBytesFromMsg` / the amino sign
doc tell all message types apart (`eipClass`, `aminoClass` injective; the harness evaluates both on the real message
registry on every run — both are FALSE on the current tree, see the two `_type_confusion_counterexample`s). A raw
Ethereum transaction fixes its nonce, chain id and content (its `TxType` label is not signed). -/
theorem bindsMsgsSeq_exact {env : Env} (hinj : ∀ t t', env.eipClass t = env.eipClass t' → t = t')
    (hinjA : ∀ t t', env.aminoClass t = env.aminoClass t' → t = t')
    {p : Payload} {msgs msgs' : List Msg} {i seq seq' : Nat} (hraw : ∀ n ch ct, p ≠ .rawEth n ch ct)
    (h : bindsMsgsSeq env p msgs i seq) (h' : bindsMsgsSeq env p msgs' i seq') : msgs = msgs' ∧ seq = seq' := by
  cases p with
  | direct c ch an => exact ⟨h.1.symm.trans h'.1, Option.some.inj (h.2.symm.trans h'.2)⟩
  | amino ms me to fe pa ch an sq =>
    exact ⟨(List.map_inj_right fun _ _ => aminoView_inj hinjA).mp (h.1.trans h'.1.symm), h.2.symm.trans h'.2⟩
  | eip712 m n ch =>
    obtain ⟨⟨m1, rfl, hv1⟩, hn⟩ := h
    obtain ⟨⟨m2, rfl, hv2⟩, hn'⟩ := h'
    exact ⟨by rw [eipView_inj hinj (hv1.trans hv2.symm)], hn.symm.trans hn'⟩
  | rawEth n ch ct => exact absurd rfl (hraw n ch ct)
  | junk n => exact h.elim

/-- on the current tree `eipClass` is NOT injective: `MsgApproveCustodyTransaction` and `MsgDeclineCustodyTransaction`
(both `Type() = "add_to_custody_custodians"`, same JSON fields), `MsgDisableBasketDeposits` and
`MsgDisableBasketWithdraws` (both `"disable_basket_withdraws"`) — types 5 and 6 stand for such a pair -/
def exEnvConf : Env := { chainId := 1, eipClass := fun t => if t = 6 then 5 else t }
def exApprove : Core := ⟨[.plain 5 42 [.eth 2]], 0, 0, 200, none, [⟨some 2, .direct, 3⟩]⟩
def exDecline : Core := ⟨[.plain 6 42 [.eth 2]], 0, 0, 200, none, [⟨some 2, .direct, 3⟩]⟩
def exDeclineSig : Sig := ⟨2, .eip712 (.plain 5 42 [.eth 2]) 3 8789, .eth65⟩

/-- **Open finding: EIP-712 message-type confusion.** The EIP-712 digest is computed from the message's `Type()`
string and its JSON, not from its protobuf type. The signature an Ethereum-style account made over a DECLINE
message is accepted on the APPROVE message with the same fields: the signer did not authorise "exactly that
transaction" (`C02/eip712/message-type-confusion`, replayed on the real code by the harness). -/
theorem eip712_type_confusion_counterexample :
    accepts exEnvConf exA ⟨exDecline, [exDeclineSig]⟩ = true ∧ accepts exEnvConf exA ⟨exApprove, [exDeclineSig]⟩ = true ∧
    exDecline.msgs ≠ exApprove.msgs ∧
    bindsMsgsSeq exEnvConf exDeclineSig.payload exDecline.msgs 0 3 ∧ bindsMsgsSeq exEnvConf exDeclineSig.payload exApprove.msgs 0 3 := by
  refine ⟨by decide +kernel, by decide +kernel, by decide, ?_, ?_⟩
  · exact ⟨⟨_, rfl, by decide⟩, rfl⟩
  · exact ⟨⟨_, rfl, by decide⟩, rfl⟩

example : (∀ t t', exEnv.eipClass t = exEnv.eipClass t' → t = t') := fun _ _ h => h

/-- the same pair of message types is not amino-registered: `GetSignBytes()` is the bare field JSON for both -/
def exEnvConfA : Env := { chainId := 1, aminoClass := fun t => if t = 6 then 5 else t }
def exApproveC : Core := ⟨[.plain 5 42 [.cosmos 3]], 0, 0, 200, none, [⟨none, .amino, 4⟩]⟩
def exDeclineC : Core := ⟨[.plain 6 42 [.cosmos 3]], 0, 0, 200, none, [⟨none, .amino, 4⟩]⟩
def exDeclineCSig : Sig := ⟨3, .amino [.plain 5 42 [.cosmos 3]] 0 0 200 none 1 7 4, .cosmos64⟩

/-- **Open finding: LEGACY_AMINO_JSON message-type confusion (standard path, ordinary cosmos accounts).** The
amino sign doc embeds `msg.GetSignBytes()`, which for a message type not registered with its module's amino codec
is the JSON of the fields without a type name. The signature a cosmos account made, in amino mode, over a DECLINE
message verifies on the APPROVE message with the same fields (`C02/amino/message-type-confusion`, replayed on the
real code by the harness). -/
theorem amino_type_confusion_counterexample :
    accepts exEnvConfA exA ⟨exDeclineC, [exDeclineCSig]⟩ = true ∧ accepts exEnvConfA exA ⟨exApproveC, [exDeclineCSig]⟩ = true ∧
    exDeclineC.msgs ≠ exApproveC.msgs := by decide

/-- **FULL statement** of the first sentence of C02: the controlling key's signature covers the whole
transaction (body, fee, signer infos, chain, account number) and the current sequence. -/
def C02_authentic_full : Prop :=
  ∀ (env : Env) (A A' : Accounts) (tx : Tx), anteAuth env A tx = .ok A' →
    ∀ (i : Nat) (s : Addr), tx.signers[i]? = some s →
      ∃ acc, A s = some acc ∧ ∃ σ ∈ allSigs tx, controls σ.key s ∧ bindsWhole env σ.payload tx i acc

def exEipFee : Core := { exEip with fee := 900 }

/-- **Open finding: fee, memo, timeout and attached key are not signed on the EIP-712 path.** The same EIP-712 signature authorises two transactions that differ in their fee
(likewise memo, timeout, attached key): both are accepted. Closed witness, replayed on the real code by the
harness (`C02/eip712/fee-and-memo-not-bound`). -/
theorem eip712_fee_malleable :
    accepts exEnv exA ⟨exEip, [exEipSig]⟩ = true ∧ accepts exEnv exA ⟨exEipFee, [exEipSig]⟩ = true ∧
    exEip.fee ≠ exEipFee.fee := ⟨exEip_accepted, by decide +kernel, by decide⟩

theorem not_full_of_accepted {env : Env} {A : Accounts} {tx : Tx} {i : Nat} {s : Addr} (hacc : accepts env A tx = true)
    (hs : tx.signers[i]? = some s) (hno : ∀ σ ∈ allSigs tx, ∀ acc, ¬ bindsWhole env σ.payload tx i acc) :
    ¬ C02_authentic_full := by
  intro hfull
  obtain ⟨A', hA'⟩ := (accepts_iff _ _ _).mp hacc
  obtain ⟨acc, _, σ, hσ, _, hb⟩ := hfull env A A' tx hA' i s hs
  exact hno σ hσ acc hb

theorem eip712_fee_not_bound_counterexample : ¬ C02_authentic_full :=
  -- the only signature on the transaction is over an EIP-712 digest; `bindsWhole` wants a SignDoc or a StdSignDoc
  not_full_of_accepted (i := 0) (s := .eth 2) eip712_fee_malleable.2.1 (by decide)
    (by simp [allSigs, embeddedSigs, bindsWhole, exEipFee, exEip, exMsg, exEipSig])

def exRawFee : Core := { exRaw with fee := 900 }

/-- **Same defect on the `MsgEthereumTx` branch.** Nothing but the embedded Ethereum transaction is signed: the
enclosing transaction's fee (memo, timeout, attached key) can be changed freely
(`C02/ethereum-tx/fee-and-memo-not-bound`). -/
theorem ethereumTx_fee_malleable :
    accepts exEnv exA ⟨exRaw, [⟨0, .junk 0, .cosmos64⟩]⟩ = true ∧ accepts exEnv exA ⟨exRawFee, [⟨7, .junk 1, .eth65⟩]⟩ = true ∧
    exRaw.fee ≠ exRawFee.fee := ⟨exRaw_accepted, by decide +kernel, by decide⟩

theorem ethereumTx_fee_not_bound_counterexample : ¬ C02_authentic_full :=
  -- the signatures on it are a junk record and the one inside the Ethereum transaction: neither is over a sign document
  not_full_of_accepted (i := 0) (s := .eth 4) ethereumTx_fee_malleable.2.1 (by decide)
    (by simp [allSigs, embeddedSigs, bindsWhole, exRawFee, exRaw])

/-- **The cosmos chain id is not signed on the Ethereum fallback** (only the constant Ethereum chain id 8789,
shared by every sekai network): the very same transaction is accepted by two chains with different chain ids. -/
theorem eth_path_ignores_chain_counterexample :
    accepts { chainId := 1 } exA ⟨exEip, [exEipSig]⟩ = true ∧ accepts { chainId := 2 } exA ⟨exEip, [exEipSig]⟩ = true :=
  ⟨exEip_accepted, by decide +kernel⟩

/-- **authentic_partial (what holds of the full statement).** Excluded inputs, as an explicit decidable
hypothesis: signers with an Ethereum-style address. For every other signer the accepted transaction carries, at
the signer's own position, a standard signature by the key that hashes to the signer's address over the WHOLE
transaction, this chain, the account number and the current sequence. -/
theorem authentic_partial {env : Env} {A A' : Accounts} {tx : Tx} (h : anteAuth env A tx = .ok A')
    (hne : ∀ s ∈ tx.signers, s.isEth = false) :
    ∀ (i : Nat) (s : Addr), tx.signers[i]? = some s →
      ∃ acc σ, A s = some acc ∧ tx.sigs[i]? = some σ ∧ σ.enc = .cosmos64 ∧ cosmosAddr σ.key = s ∧
        bindsWhole env σ.payload tx i acc := by
  intro i s hs
  obtain ⟨acc, pk, hA, _, hsig⟩ := accepted_signer_signed h hs
  rcases hsig with ⟨haddr, σ, hsig, hkey, henc, hb⟩ | ⟨_, σ, _, hkey, _⟩
  · exact ⟨acc, σ, hA, hsig, henc, hkey ▸ haddr, hb⟩
  · cases hkey.symm ▸ hne s (List.mem_of_getElem? hs)

/-- `authentic_partial` implies the full conclusion for such transactions -/
theorem authentic_full_of_cosmos_signers {env : Env} {A A' : Accounts} {tx : Tx} (h : anteAuth env A tx = .ok A')
    (hne : ∀ s ∈ tx.signers, s.isEth = false) :
    ∀ (i : Nat) (s : Addr), tx.signers[i]? = some s →
      ∃ acc, A s = some acc ∧ ∃ σ ∈ allSigs tx, controls σ.key s ∧ bindsWhole env σ.payload tx i acc := by
  intro i s hs
  obtain ⟨acc, σ, hA, hsig, _, hk, hb⟩ := authentic_partial h hne i s hs
  exact ⟨acc, hA, σ, List.mem_append_left _ (List.mem_of_getElem? hsig), Or.inl hk.symm, hb⟩

example : (∀ s ∈ exTwoTx.signers, s.isEth = false) ∧ accepts exEnv exA exTwoTx = true := ⟨by decide, exTwoTx_accepted⟩

/-- two uses of one signed payload (transaction, chain, signer's account) agree in everything the payload covers; the
messages as far as the sign bytes show them: DIRECT exactly, AMINO up to `aminoView` -/
structure SameContent (env env' : Env) (tx tx' : Tx) (acc acc' : Account) : Prop where
  msgs : tx.core.msgs = tx'.core.msgs ∨ tx.core.msgs.map (aminoView env) = tx'.core.msgs.map (aminoView env')
  memo : tx.core.memo = tx'.core.memo
  timeout : tx.core.timeout = tx'.core.timeout
  fee : tx.core.fee = tx'.core.fee
  payer : tx.core.payer = tx'.core.payer
  chainId : env.chainId = env'.chainId
  num : acc.num = acc'.num
  seq : acc.seq = acc'.seq

/-- a signature that covers a whole transaction covers only that one, whichever chains / accounts the two uses are on -/
theorem signature_authorises_one_content {env env' : Env} {p : Payload} {tx tx' : Tx} {i : Nat} {acc acc' : Account}
    (h : bindsWhole env p tx i acc) (h' : bindsWhole env' p tx' i acc') : SameContent env env' tx tx' acc acc' := by
  rcases h with ⟨rfl, h2⟩ | rfl <;> rcases h' with ⟨h1', h2'⟩ | h1'
  · -- both DIRECT: the same `Core`, chain id and account number; the sequence is the signer info's in that `Core`
    injection h1' with hc hch hn
    rw [hc, h2'] at h2
    exact { msgs := .inl (hc ▸ rfl), memo := hc ▸ rfl, timeout := hc ▸ rfl, fee := hc ▸ rfl, payer := hc ▸ rfl,
            chainId := hch, num := hn, seq := (Option.some.inj h2).symm }
  · cases h1'                                           -- a SignDoc is no StdSignDoc
  · cases h1'
  · -- both AMINO: the StdSignDoc lists every field
    injection h1' with hmsgs hmemo htimeout hfee hpayer hchain hnum hseq
    exact { msgs := .inr hmsgs, memo := hmemo, timeout := htimeout, fee := hfee, payer := hpayer, chainId := hchain,
            num := hnum, seq := hseq }

/-- … and exactly the same messages when the amino sign doc tells all message types apart -/
theorem signature_authorises_one_tx {env : Env} (hinj : ∀ t t', env.aminoClass t = env.aminoClass t' → t = t')
    {p : Payload} {tx tx' : Tx} {i : Nat} {acc acc' : Account}
    (h : bindsWhole env p tx i acc) (h' : bindsWhole env p tx' i acc') : tx.core.msgs = tx'.core.msgs := by
  rcases (signature_authorises_one_content h h').msgs with h1 | h1
  · exact h1
  · exact (List.map_inj_right fun _ _ => aminoView_inj hinj).mp h1

/-- **Reading against a forger.** `adv` are the keys the adversary owns, `honest` the signatures the honest key
holders ever produced. If every signature on an accepted transaction is either made with an adversary key or is
a copy of an honest one (the symbolic meaning of "cannot sign without the private key"), and the adversary
controls none of the keys of signer `s`, then an honest holder of a key controlling `s` signed a payload that
binds these messages for the current sequence — as far as its sign bytes show a message: for EIP-712 / LEGACY_AMINO_JSON payloads up to
`eipView` / `aminoView` (`eip712_type_confusion_counterexample`). -/
theorem no_forgery {env : Env} {A A' : Accounts} {tx : Tx} (adv : Key → Prop) (honest : Sig → Prop)
    (hsigs : ∀ σ ∈ allSigs tx, adv σ.key ∨ honest σ)
    (h : anteAuth env A tx = .ok A') (i : Nat) (s : Addr) (hs : tx.signers[i]? = some s)
    (hnot : ∀ k, controls k s → ¬ adv k) :
    ∃ acc σ, A s = some acc ∧ honest σ ∧ controls σ.key s ∧ bindsMsgsSeq env σ.payload tx.core.msgs i acc.seq := by
  obtain ⟨acc, hA, σ, hmem, hc, hb⟩ := authentic_msgs h i s hs
  rcases hsigs σ hmem with ha | hh
  · exact absurd ha (hnot _ hc)
  · exact ⟨acc, σ, hA, hh, hc, hb⟩

/-- **The sender of a `MsgEthereumTx` is authenticated.** A transaction made of a `MsgEthereumTx` naming `sender` is
accepted only if the embedded Ethereum transaction was signed by the key whose Ethereum address is `sender`
(with nonce = the sender's sequence), or the key on record whose cosmos address is `sender` signed the whole
enclosing transaction. A stranger's Ethereum signature never moves `sender`'s coins. -/
theorem ethereumTx_sender_authenticated {env : Env} {A A' : Accounts} {tx : Tx} {sender : Addr} {etx : EthTx} {ty : Nat}
    (h : anteAuth env A tx = .ok A') (hm : tx.core.msgs = [.ethTx sender etx ty]) :
    ∃ acc, A sender = some acc ∧
      ((∃ k, etx.signedBy = some k ∧ ethAddr k = sender ∧ etx.nonce = acc.seq ∧ etx.chainId = env.ethChainId) ∨
       (∃ σ, tx.sigs[0]? = some σ ∧ cosmosAddr σ.key = sender ∧ bindsWhole env σ.payload tx 0 acc)) := by
  obtain ⟨acc, info, σ, pk, hsigner⟩ := accepted_signer h (signers_head_eth hm)
  refine ⟨acc, hsigner.account, ?_⟩
  cases hsigner.auth with
  | std haddr hkey _ hsb =>
    exact .inr ⟨σ, hsigner.sigAt, hkey ▸ haddr, signBytes_bindsWhole hsb hsigner.infoAt hsigner.seqMatches⟩
  | eip712 m _ _ hmsgs hne _ _ _ _ => cases hm.symm.trans hmsgs; cases hne
  | rawEth k etx' ty' _ _ hmsgs hk hks hn hc => cases hm.symm.trans hmsgs; exact .inl ⟨k, hk, hks, hn, hc⟩

/-- the forged message of DESIGN.md Appendix C (victim `cosmos 1` without key on record, stranger key 8 attaches
its own key and signs the Ethereum transaction and the cosmos transaction) is rejected -/
def exForged : Core := ⟨[.ethTx (.cosmos 1) ⟨0, 8789, 500, some 8⟩ 0], 0, 0, 200, none, [⟨some 8, .direct, 0⟩]⟩
example : accepts exEnv exA ⟨exForged, [⟨8, .direct exForged 1 5, .cosmos64⟩]⟩ = false := by decide

/-- **A fee payer is authenticated like every other signer.** A fee payer named by an accepted transaction is one of
its signers: a key that controls the payer signed these messages for the payer's current sequence — also when the
payer follows an Ethereum-style signer in the signer list, and also when the message is a `MsgEthereumTx` (which
authenticates its own sender only). -/
theorem fee_payer_authenticated {env : Env} {A A' : Accounts} {tx : Tx} (h : anteAuth env A tx = .ok A')
    (p : Addr) (hp : tx.core.payer = some p) :
    ∃ (i : Nat) (acc : Account), tx.signers[i]? = some p ∧ A p = some acc ∧
      ∃ σ ∈ allSigs tx, controls σ.key p ∧ bindsMsgsSeq env σ.payload tx.core.msgs i acc.seq := by
  obtain ⟨i, hi⟩ := List.mem_iff_getElem?.mp (payer_mem_signers hp)
  obtain ⟨acc, hA, hσ⟩ := authentic_msgs h i p hi
  exact ⟨i, acc, hi, hA, hσ⟩

/-- the forged fee payer: Ethereum-style account `eth 4` (sequence 0) sends a `MsgEthereumTx` it signed itself and
names `victim` as fee payer, attaching key 8 for it and two junk signatures -/
def exB : Accounts := fun a =>
  if a = .eth 4 then some ⟨some 9, 0, 8⟩ else if a = .cosmos 1 then some ⟨none, 0, 5⟩
  else if a = .cosmos 3 then some ⟨some 3, 0, 7⟩ else none
def exPayer (victim : Addr) : Core :=
  ⟨[.ethTx (.eth 4) ⟨0, 8789, 77, some 4⟩ 0], 0, 0, 1000000, some victim, [⟨none, .direct, 0⟩, ⟨some 8, .direct, 0⟩]⟩
/-- victim without key on record (sequence equal to the attacker's), victim with its own key on record: rejected -/
example : accepts exEnv exB ⟨exPayer (.cosmos 1), [⟨8, .junk 0, .cosmos64⟩, ⟨8, .junk 1, .cosmos64⟩]⟩ = false := by decide
example : accepts exEnv exB ⟨exPayer (.cosmos 3), [⟨8, .junk 0, .cosmos64⟩, ⟨8, .junk 1, .cosmos64⟩]⟩ = false := by decide
/-- non-vacuity of `fee_payer_authenticated`: the payer `cosmos 3` signs the whole transaction (DIRECT) — accepted -/
example : accepts exEnv exB ⟨exPayer (.cosmos 3), [⟨8, .junk 0, .cosmos64⟩, ⟨3, .direct (exPayer (.cosmos 3)) 1 7, .cosmos64⟩]⟩ = true ∧
    (exPayer (.cosmos 3)).payer = some (.cosmos 3) := by decide

/-- on the standard path the chain id is signed: a transaction whose signers all have cosmos-style addresses is
not accepted by two chains with different chain ids (contrast `eth_path_ignores_chain_counterexample`) -/
theorem std_path_binds_chain {env env' : Env} {A B A' B' : Accounts} {tx : Tx}
    (h : anteAuth env A tx = .ok A') (h' : anteAuth env' B tx = .ok B')
    (hne : ∀ s ∈ tx.signers, s.isEth = false) : env.chainId = env'.chainId := by
  obtain ⟨s, hs⟩ := accepted_first_signer h
  obtain ⟨acc, σ, _, hsig, _, _, hb⟩ := authentic_partial h hne 0 s hs
  obtain ⟨acc', σ', _, hsig', _, _, hb'⟩ := authentic_partial h' hne 0 s hs
  cases hsig.symm.trans hsig'
  exact (signature_authorises_one_content hb hb').chainId

/-- baseapp discards the ante branch of a rejected transaction: the account store is unchanged (no sequence
moved, no key installed) -/
theorem rejected_unchanged {env : Env} {A : Accounts} {tx : Tx} {e : Err} (h : anteAuth env A tx = .error e) :
    applyTx env A tx = A := by
  simp [applyTx, h]

example : ∃ A', anteAuth exEnv exA exTwoTx = .ok A' := (accepts_iff _ _ _).mp exTwoTx_accepted

def Grows (A B : Accounts) : Prop := ∀ a acc, A a = some acc → ∃ acc', B a = some acc' ∧ acc.seq ≤ acc'.seq

/-- one later event on the chain that touches the account store: an accepted transaction (any transaction, by
anyone), or the creation of an account at an unused address (e.g. a first bank transfer to it) -/
inductive Step (env : Env) : Accounts → Accounts → Prop where
  | tx {B C : Accounts} (t : Tx) : anteAuth env B t = .ok C → Step env B C
  | create {B : Accounts} (a : Addr) (acc : Account) : B a = none → Step env B (B.set a acc)

inductive Reach (env : Env) : Accounts → Accounts → Prop where
  | refl (A : Accounts) : Reach env A A
  | tail {A B C : Accounts} : Reach env A B → Step env B C → Reach env A C

theorem Step.grows {env : Env} {B C : Accounts} (h : Step env B C) : Grows B C := by
  cases h with
  | tx t ht =>
    intro a acc hA
    obtain ⟨pk, _, h1⟩ := (accepted_effect ht a).2 acc hA
    exact ⟨_, h1, by dsimp only; split <;> omega⟩
  | create a acc hn =>
    intro b accb hb
    have : b ≠ a := by intro hba; rw [hba, hn] at hb; cases hb
    exact ⟨accb, by rw [set_other _ _ this]; exact hb, Nat.le_refl _⟩

theorem Reach.grows {env : Env} {A B : Accounts} (h : Reach env A B) : Grows A B := by
  induction h with
  | refl => exact fun _ acc h => ⟨acc, h, Nat.le_refl _⟩
  | tail _ hs ih =>
    intro a acc h
    obtain ⟨acc1, hb, _⟩ := ih a acc h
    obtain ⟨acc2, hc, _⟩ := hs.grows a acc1 hb
    exact ⟨acc2, hc, by omega⟩

/-- **No replay (all later histories).** A transaction that has been accepted once is rejected when submitted
again — immediately, later in the same block, in any later block, after any number of further accepted
transactions of anybody and any account creations: its first signer's sequence field equals the sequence the
account had, the acceptance moved that sequence up by one, and no later event lowers a sequence. -/
theorem no_replay {env : Env} {A A' A'' : Accounts} {tx : Tx} (h : anteAuth env A tx = .ok A')
    (hr : Reach env A' A'') : ∃ e, anteAuth env A'' tx = .error e := by
  obtain ⟨s, hs⟩ := accepted_first_signer h
  obtain ⟨acc, info, _, _, hsigner⟩ := accepted_signer h hs
  obtain ⟨acc'', hA'', hle⟩ := hr.grows s _ hsigner.after
  exact wrong_seq_rejected hs hsigner.infoAt hA'' (by have := hsigner.seqMatches; dsimp only at hle; omega)

theorem no_replay_immediate {env : Env} {A A' : Accounts} {tx : Tx} (h : anteAuth env A tx = .ok A') :
    ∃ e, anteAuth env A' tx = .error e := no_replay h (Reach.refl _)

/-- non-vacuity: the hypotheses of `no_replay` are inhabited by a non-trivial history (an account is created after the
accepted transaction) -/
example : ∃ A' A'' , anteAuth exEnv exA exTwoTx = .ok A' ∧ Reach exEnv A' A'' ∧ A'' ≠ A' := by
  obtain ⟨A', h⟩ := (accepts_iff exEnv exA exTwoTx).mp exTwoTx_accepted
  have hn : A' (.other 9) = none := (accepted_effect h (.other 9)).1 (by decide)
  refine ⟨A', A'.set (.other 9) ⟨none, 0, 99⟩, h, Reach.tail (Reach.refl _) (Step.create _ _ hn), ?_⟩
  intro heq
  have := congrFun heq (.other 9)
  rw [set_same, hn] at this
  cases this

/-- **FULL statement**: after an accepted transaction, a key that is newly on record for an account controls it -/
def C02_pubkey_full : Prop :=
  ∀ (env : Env) (A A' : Accounts) (tx : Tx), anteAuth env A tx = .ok A' →
    ∀ (a : Addr) (acc acc' : Account) (k : Key), A a = some acc → acc.pk = none → A' a = some acc' → acc'.pk = some k →
      controls k a

/-- **pubkey_install_partial (what holds).** After an accepted transaction, a key `k` newly on record for account
`a` was attached at `a`'s signer position, and EITHER `k` hashes to `a` (and it is the key that signed the whole
transaction) OR `a` is an Ethereum-style address, `a` was authenticated by
the key whose Ethereum address is `a`, and `k` does not hash to `a` — so `k` can never pass the address
comparison that guards the standard path: it is never used to verify anything for `a`. -/
theorem pubkey_install_partial {env : Env} {A A' : Accounts} {tx : Tx} (h : anteAuth env A tx = .ok A')
    (a : Addr) (acc acc' : Account) (k : Key)
    (hA : A a = some acc) (hnone : acc.pk = none) (hA' : A' a = some acc') (hk : acc'.pk = some k) :
    ∃ i : Nat, tx.signers[i]? = some a ∧ (tx.core.infos[i]?).map (·.pk) = some (some k) ∧
      ((cosmosAddr k = a ∧ ∃ σ, tx.sigs[i]? = some σ ∧ σ.key = k ∧ bindsWhole env σ.payload tx i acc) ∨
       (a.isEth = true ∧ cosmosAddr k ≠ a ∧
          ∃ σ ∈ allSigs tx, ethAddr σ.key = a ∧ bindsMsgsSeq env σ.payload tx.core.msgs i acc.seq)) := by
  obtain ⟨i, hs, hpki⟩ := new_key_attached h hA hnone hA' hk
  refine ⟨i, hs, hpki, ?_⟩
  obtain ⟨acc0, pk, hA0, hA0', hsig⟩ := accepted_signer_signed h hs
  cases hA.symm.trans hA0
  cases hA'.symm.trans hA0'
  cases hk
  rcases hsig with ⟨haddr, σ, hsig, hkey, _, hb⟩ | ⟨hne, σ, hmem, hkey, hb⟩
  · exact .inl ⟨haddr, σ, hsig, hkey, hb⟩
  · exact .inr ⟨hkey ▸ rfl, hne, σ, hmem, hkey, hb⟩

/-- the EIP-712 transaction of account `eth 2` (no key on record) with the key of stranger 9 attached -/
def exEipStranger : Tx := ⟨{ exEip with infos := [⟨some 9, .direct, 3⟩] }, [exEipSig]⟩

/-- one evaluation of `anteAuth` -/
theorem exEipStranger_installs :
    ∃ A' acc', anteAuth exEnv exA exEipStranger = .ok A' ∧ A' (.eth 2) = some acc' ∧ acc'.pk = some 9 := by
  have hobs : (match anteAuth exEnv exA exEipStranger with
      | .ok A' => (A' (.eth 2)).map (·.pk)
      | .error _ => none) = some (some 9) := by decide +kernel
  split at hobs
  · rename_i A' hA'
    obtain ⟨acc', h1, h2⟩ := Option.map_eq_some_iff.mp hobs
    exact ⟨A', acc', hA', h1, h2⟩
  · cases hobs

/-- **Open finding.** `SetPubKeyDecorator` stores whatever key is attached (its address check is commented out);
for an Ethereum-style account every attached key fails the address comparison, the EIP-712 signature does not
cover the attached key, so an accepted transaction leaves a key on record that does not control the account —
a key the account owner never signed for, and which anyone relaying the transaction can choose
(`C02/setpubkey/unbound-key-installed-on-eth-account`). -/
theorem pubkey_install_counterexample : ¬ C02_pubkey_full := by
  intro hfull
  obtain ⟨A', acc', hA', h1, h2⟩ := exEipStranger_installs
  exact absurd (hfull exEnv exA A' exEipStranger hA' (.eth 2) ⟨none, 3, 6⟩ acc' 9 (by decide) rfl h1 h2) (by decide)

example : ∃ A', anteAuth exEnv exA exEipStranger = .ok A' ∧ exA (.eth 2) = some ⟨none, 3, 6⟩ :=
  let ⟨A', _, h, _⟩ := exEipStranger_installs
  ⟨A', h, by decide⟩

/-- **Keys are installed only by transactions validly signed by the account's controlling key** (all inputs, no
exclusion): after an accepted transaction, any key newly on record for account `a` was attached at `a`'s signer
position of a transaction that carries a signature, by a key controlling `a`, over these messages and `a`'s
sequence. In particular nobody but the holder of a controlling key can cause a key to be put on record — what the
holder cannot control on the Ethereum path is WHICH key (`pubkey_install_counterexample`). -/
theorem pubkey_install_only_with_valid_sig {env : Env} {A A' : Accounts} {tx : Tx} (h : anteAuth env A tx = .ok A')
    (a : Addr) (acc acc' : Account) (k : Key)
    (hA : A a = some acc) (hnone : acc.pk = none) (hA' : A' a = some acc') (hk : acc'.pk = some k) :
    ∃ i : Nat, tx.signers[i]? = some a ∧ (tx.core.infos[i]?).map (·.pk) = some (some k) ∧
      ∃ σ ∈ allSigs tx, controls σ.key a ∧ bindsMsgsSeq env σ.payload tx.core.msgs i acc.seq := by
  obtain ⟨i, hs, hpk, _⟩ := pubkey_install_partial h a acc acc' k hA hnone hA' hk
  obtain ⟨acc0, hA0, hσ⟩ := authentic_msgs h i a hs
  rw [hA] at hA0; cases hA0
  exact ⟨i, hs, hpk, hσ⟩

theorem pubkey_never_replaced {env : Env} {A A' : Accounts} {tx : Tx} (h : anteAuth env A tx = .ok A')
    (a : Addr) (acc : Account) (k : Key) (hA : A a = some acc) (hk : acc.pk = some k) :
    ∃ acc', A' a = some acc' ∧ acc'.pk = some k := by
  obtain ⟨pk, hpk, h1⟩ := (accepted_effect h a).2 acc hA
  exact ⟨_, h1, hpk k hk⟩

/-- no decorator of app/ante returns success without calling `next` (`Gen.App.anteEarlyAccepts` lists every `return`
of an `AnteHandle` method that is neither `next(...)` nor an error): by `App.accepted_passed_all` every accepted
transaction has then passed every decorator of the chain - in particular signature verification and the sequence
increment, whatever the decorators in front of them decide. -/
theorem no_decorator_accepts_early : Sekai.Gen.App.anteEarlyAccepts = [] := by rfl

/-- The ante chain the `Auth` model stands for: the public key is installed before signatures are verified, the
sequence number is incremented only after verification, and each of the three decorators is in the chain exactly
once (a chain without `NewSigVerificationDecorator`, or with the increment first, is not the modelled one). -/
theorem ante_auth_wiring :
    Sekai.App.inOrder Sekai.Gen.App.anteChain
      ["ante.NewSetUpContextDecorator", "NewSetPubKeyDecorator", "NewSigVerificationDecorator",
       "ante.NewIncrementSequenceDecorator"] = true ∧
    Sekai.App.once Sekai.Gen.App.anteChain "ante.NewValidateSigCountDecorator" = true ∧
    Sekai.App.once Sekai.Gen.App.anteChain "ante.NewValidateBasicDecorator" = true := by decide +kernel

end Sekai.Props.C02
