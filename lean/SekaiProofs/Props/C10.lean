import SekaiProofs.Lemmas.MultiStakePar
import SekaiProofs.Lemmas.MultiStakeCredits
import SekaiProofs.Lemmas.MultiStakeDistr
import Sekai.Gen.Keys
import SekaiProofs.Lemmas.Keys
/-! # C10 — Staking pools: shares match stake, pro-rata redemption, rewards reach stakers

Theorems about the executable model `Sekai.Model.MultiStake` / `Sekai.Model.Distr` (which mirror, as coded,
x/multistaking/keeper/{delegation,pool,slash,msg_server}.go, x/multistaking/types/pool.go,
x/distributor/keeper/{distributor,abci,store,annual_inflation}.go, the stake-cap rule of x/tokens `UpsertTokenInfo` and
x/layer2 `MsgMintBurnTx` on share tokens, and which the correspondence run compares line by line with the implementation).

The sections below, by the clause of the property they are about: (a) share supply = recorded share total; (b) redemption pro
rata, also after a slash; (c) an undelegation is claimable after the period, once, by its owner; (d) what is credited never
exceeds the allocation; (f) a proposer that has been signing is paid; with (a) stands (e), the module account covers stake and
pending undelegations, which is no clause of C10 but the solvency C04 restates. The property's last clause (the remainder goes
to the treasury) has no theorem here. Three further sections: the token registry's stake-cap rule (`capsOk`), the layer2 burn,
under which (a) fails, and the key spaces. (a), (c), (e) hold for every history over `Op` from a state with `Inv`. (b), (d), (f) are
FALSE of the code as it stands: each section has `C10_full_…`, its `…_counterexample` and the `…_partial` that holds — (b) for pools
never slashed, under `Inv2`; (d) under `hround`; (f) for the fee loop alone (the vote wipe leaves the proposer unpaid in every
run). Findings are cited by their key in known_findings.json.

The closed witnesses of the `…_counterexample`s are replayed on the real code by harness/c10.go. -/
namespace Sekai.Props.C10
open Sekai Sekai.MultiStake AMap

def kex : TokInfo := { stakeEnabled := true, stakeMin := 1, stakeCap := Dec.half, feeRate := Dec.one }
def btc : TokInfo := { stakeEnabled := true, stakeMin := 1, stakeCap := Dec.half, feeRate := Dec.one }

/-- two funded accounts, validator 0 active, ukex and ubtc stakeable with stake caps 0.5 + 0.5 -/
def w0 : St :=
  { bank := (({} : Bank).mint (.user 2) [(ukex, 5000), (⟨0, 1⟩, 5000)]).mint (.user 3) [(ukex, 5000)],
    toks := [(0, kex), (1, btc)], vals := [(0, true)], height := 1, now := 1000 }

def wOps : List Op :=
  [.upsert 0 0 true Dec.half, .delegate 2 0 [(ukex, 1000)], .delegate 3 0 [(ukex, 1000)], .slash 0 Dec.half]

def w1 : St := run w0 wOps

/-- the pool after the two delegations … -/
def wPool3 : Pool := { id := 1, val := 0, enabled := true, commission := Dec.half, stake := [(ukex, 2000)], shares := [(⟨1, 0⟩, 2000)] }
/-- … and after the 50 % slash: half of the stake is gone, all 2000 shares are still outstanding -/
def wPool4 : Pool := { id := 1, val := 0, enabled := false, commission := Dec.half, slashed := Dec.half, stake := [(ukex, 1000)], shares := [(⟨1, 0⟩, 2000)] }

theorem inv2_w0 : Inv2 w0 := by
  refine Inv2.of_no_pools rfl rfl fun d hd => ?_
  have h1 : ¬ (ukex = d) := fun e => hd (e ▸ rfl)
  have h2 : ¬ ((⟨0, 1⟩ : Denom) = d) := fun e => hd (e ▸ rfl)
  show get [(ukex, 10000), (⟨0, 1⟩, 5000)] d = 0
  simp [get_cons, h1, h2]

/-! ## (a) share supply = recorded share total, (e) the module account covers stake + undelegations
— for every op sequence (`Op` does not contain the layer2 burn: last section) -/

/-- **For every pool and staked denomination the bank supply of the pool's share token equals the pool's
recorded share total** — after any sequence of ops from any state satisfying the invariant (e.g. genesis). -/
theorem share_supply_eq_record (s0 : St) (h0 : Inv s0) (ops : List Op) :
    ∀ p ∈ (run s0 ops).pools, ∀ tok : Nat,
      get (run s0 ops).bank.supply ⟨p.id, tok⟩ = get p.shares ⟨p.id, tok⟩ :=
  fun p hp tok => (inv_run ops h0).share p hp ⟨p.id, tok⟩ rfl

/-- share tokens of pools that do not exist have no supply; pool ids and validators are pairwise distinct -/
theorem share_denoms_belong_to_pools (s0 : St) (h0 : Inv s0) (ops : List Op) :
    (∀ d : Denom, (run s0 ops).lastPoolId < d.pool → get (run s0 ops).bank.supply d = 0) ∧
    (run s0 ops).pools.Pairwise (fun p q => p.val ≠ q.val ∧ p.id ≠ q.id) :=
  ⟨(inv_run ops h0).fresh, (inv_run ops h0).distinct⟩

/-- **Module solvency**: the multistaking module account holds at least Σ pool stake + Σ pending undelegations,
per denom — preserved by every op, slashes included (a slash removes exactly what it takes off the record). -/
theorem module_solvent (s0 : St) (h0 : Inv s0) (ops : List Op) (d : Denom) :
    stakeSum (run s0 ops).pools d + undelSum (run s0 ops).undels d ≤ (run s0 ops).bal .ms d :=
  (inv_run ops h0).solv d

/-- the empty (genesis) state satisfies the invariant … -/
theorem inv_genesis : Inv2 ({} : St) := Inv2.of_no_pools rfl rfl fun _ _ => rfl

/-- non-vacuity: … and so does a funded state; four ops later there is a slashed pool with 2000 shares outstanding
whose supply equals the record -/
example : Inv w0 ∧ (run w0 wOps).pools = [wPool4] ∧ get (run w0 wOps).bank.supply ⟨1, 0⟩ = 2000 := by
  exact ⟨inv2_w0.1, by decide +kernel⟩

/-! ## (b) pro-rata redemption -/

/-- what a successful `Undelegate` does to the delegator and the pool: it burns `GetPoolCoins(pool, amounts)` of the
delegator's shares and writes a new undelegation record for `amounts`, which the pool's stake covered (the pool's stake afterwards:
`undelegate_some`) -/
theorem undelegate_effect {s s' : St} {who val : Nat} {amts : Coins} (h : undelegate s who val amts = some s') :
    ∃ (p : Pool) (pc : Coins), findPool s val = some p ∧ poolCoins p amts = some pc ∧
      (∀ d, s'.bal (.user who) d + get pc d = s.bal (.user who) d) ∧
      (∀ d, get amts d ≤ get p.stake d) ∧
      s'.undels = s.undels ++ [{ id := s.lastUndelId + 1, owner := who, val := val,
                                 expiry := s.now + s.props.unstakingPeriod, amount := amts }] := by
  obtain ⟨p, pc, b1, b2, stake', shares', g, rfl⟩ := undelegate_some h
  refine ⟨p, pc, g.pool, g.coins, fun d => ?_, fun d => ?_, rfl⟩
  · -- the shares leave the delegator for the module account; the burn there does not touch the delegator
    show b2.balance (.user who) d + get pc d = s.bank.balance (.user who) d
    rw [Bank.burn_bal_other g.burnt (a := .user who) nofun d]
    exact Bank.send_bal_src g.sent nofun d
  · have := get_subAll g.stake d; omega

/-- **Full statement**: a delegator redeeming shares receives stake in proportion to the shares given up — never more
than that fraction of the pool's remaining stake, also after a slash:
`stakeOut · totalShares ≤ sharesBurned · totalStake` for every successful undelegation in every reachable state. -/
def C10_full_redeem_pro_rata : Prop :=
  ∀ (s0 : St) (ops : List Op) (who val : Nat) (amts : Coins) (p : Pool) (pc : Coins) (s' : St), Inv2 s0 →
    findPool (run s0 ops) val = some p → poolCoins p amts = some pc →
    undelegate (run s0 ops) who val amts = some s' →
    ∀ tok : Nat, get amts ⟨0, tok⟩ * get p.shares ⟨p.id, tok⟩ ≤ get pc ⟨p.id, tok⟩ * get p.stake ⟨0, tok⟩

/-- **Proved part**: in every reachable state, for every pool that has never been slashed (`Slashed = 0`), shares and
stake are at par and a redemption burns exactly as many shares as the stake it takes — pro rata with equality. -/
theorem redeem_pro_rata_partial (s0 : St) (h0 : Inv2 s0) (ops : List Op) (val : Nat) (amts : Coins)
    (p : Pool) (pc : Coins) (hp : findPool (run s0 ops) val = some p) (hpc : poolCoins p amts = some pc)
    (hunslashed : p.slashed = 0) (tok : Nat) :
    get amts ⟨0, tok⟩ * get p.shares ⟨p.id, tok⟩ ≤ get pc ⟨p.id, tok⟩ * get p.stake ⟨0, tok⟩ := by
  rw [get_poolCoins_par hpc hunslashed tok, par_run ops h0.2 p (findPool_mem hp).1 hunslashed tok]
  exact Nat.le_refl _

/-- non-vacuity: an unslashed pool with two delegators in which such a redemption succeeds -/
example : ∃ p pc s', findPool (run w0 (wOps.take 3)) 0 = some p ∧ p.slashed = 0 ∧
    poolCoins p [(ukex, 700)] = some pc ∧ undelegate (run w0 (wOps.take 3)) 2 0 [(ukex, 700)] = some s' ∧
    get pc ⟨1, 0⟩ = 700 := by
  have h : findPool (run w0 (wOps.take 3)) 0 = some wPool3 ∧ poolCoins wPool3 [(ukex, 700)] = some [(⟨1, 0⟩, 700)] ∧
      (undelegate (run w0 (wOps.take 3)) 2 0 [(ukex, 700)]).isSome = true := by decide +kernel
  obtain ⟨s', hu⟩ := Option.isSome_iff_exists.mp h.2.2
  exact ⟨wPool3, [(⟨1, 0⟩, 700)], s', h.1, rfl, h.2.1, hu, by decide⟩

/-- **Counterexample on the code as it is (finding `C10/undelegate-after-slash/redeems-more-than-pro-rata`)**: after the 50 % slash the pool holds 1000 ukex against 2000
shares; the holder of HALF of the shares undelegates 1000 ukex — the whole remaining stake — and `Undelegate` burns
`1000·(1 − 0.5) = 500` of its shares: `1000 · 2000 ≤ 500 · 1000` is false. -/
theorem undelegate_after_slash_counterexample : ¬ C10_full_redeem_pro_rata := by
  intro hfull
  have h : findPool (run w0 wOps) 0 = some wPool4 ∧ poolCoins wPool4 [(ukex, 1000)] = some [(⟨1, 0⟩, 500)] ∧
      (undelegate (run w0 wOps) 2 0 [(ukex, 1000)]).isSome = true := by decide +kernel
  obtain ⟨s', hu⟩ := Option.isSome_iff_exists.mp h.2.2
  have := hfull w0 wOps 2 0 [(ukex, 1000)] _ _ s' inv2_w0 h.1 h.2.1 hu 0
  revert this
  decide +kernel

/-- … and the account that held the other half of the shares is left with nothing to redeem: the pool's stake is 0 -/
theorem undelegate_after_slash_drains_pool :
    (match undelegate (run w0 wOps) 2 0 [(ukex, 1000)] with
     | some s' => (findPool s' 0).map (fun p => (get p.stake ukex, get p.shares ⟨1, 0⟩, s'.bal (.user 3) ⟨1, 0⟩))
     | none => none) = some (0, 1500, 1000) := by decide +kernel

/-! ## (c) claims: only after the period, exactly once, only by the account that undelegated -/

/-- **`ClaimUndelegation` succeeds only if the record exists, the sender is its recorded owner and the block time has
reached its expiry; it then pays exactly the recorded amount from the module to that owner and removes every record with that
id, so that no second claim of the same id — by anyone — can succeed.** For all states. (In the Go code ids are unique: only
`Undelegate` writes the counter. The histories `Op` do not enforce it: `Op.env` does not ask that `lastUndelId` is kept.) -/
theorem claim_after_period_once_by_owner {s s' : St} {who id : Nat} (h : claimUndel s who id = some s') :
    ∃ u : Undel, s.undels.find? (fun u => u.id == id) = some u ∧ u.owner = who ∧ u.expiry ≤ s.now ∧
      (∀ d, s'.bal (.user who) d = s.bal (.user who) d + get u.amount d) ∧
      (∀ d, s'.bal .ms d + get u.amount d = s.bal .ms d) ∧
      (∀ u' ∈ s'.undels, u'.id ≠ id) ∧
      (∀ who' : Nat, claimUndel s' who' id = none) := by
  obtain ⟨u, b, g, rfl⟩ := claimUndel_some h
  have hgone : ∀ u' ∈ s.undels.filter (fun u => u.id != id), u'.id ≠ id :=
    fun u' hu' => by simpa using (List.mem_filter.mp hu').2
  refine ⟨u, g.found, g.owner, g.matured, fun d => ?_, fun d => ?_, hgone, fun who' => ?_⟩
  · exact Bank.send_bal_dst g.paid nofun d
  · exact Bank.send_bal_src g.paid nofun d
  · cases hc : claimUndel _ who' id with
    | none => rfl
    | some s'' =>
      obtain ⟨u', _, g', _⟩ := claimUndel_some hc
      exact absurd (by simpa using List.find?_some g'.found) (hgone u' (List.mem_of_find?_eq_some g'.found))

/-- the converse, in every reachable state: the recorded owner CAN claim a matured undelegation (the module holds the
funds by solvency) -/
theorem owner_can_claim_matured (s0 : St) (h0 : Inv s0) (ops : List Op) (id : Nat) (u : Undel)
    (hu : (run s0 ops).undels.find? (fun u => u.id == id) = some u) (ht : u.expiry ≤ (run s0 ops).now) :
    ∃ s', claimUndel (run s0 ops) u.owner id = some s' :=
  (inv_run ops h0).can_claim hu ht

/-- non-vacuity of the claim theorem: undelegate, wait for the period, claim; a stranger and an early claim are rejected -/
example :
    let s1 := run w0 (wOps.take 3 ++ [.undelegate 2 0 [(ukex, 700)]])
    let late : St := { s1 with now := s1.now + s1.props.unstakingPeriod }
    (claimUndel s1 2 1).isNone ∧ (claimUndel late 3 1).isNone ∧ (claimUndel late 2 1).isSome ∧
      (((claimUndel late 2 1).bind fun s2 => claimUndel s2 2 1).isNone) := by decide +kernel

/-! ## (d) what the reward split credits is bounded by the allocation -/

/-- the `StakeCap`s of the token registry (`s.toks`, not of one pool: see `caps_of_any_selection`) are what `UpsertTokenInfo`
enforces: each non-negative, their sum at most 1 -/
def capsOk (s : St) : Prop := (∀ t ∈ s.toks, 0 ≤ t.2.stakeCap) ∧ (s.toks.map (fun t => t.2.stakeCap)).sum ≤ Dec.one

/-- **Full statement**: the total `IncreasePoolRewards` credits to the pool's delegators in a reward denom never
exceeds the allocation in that denom (holdings of the registered delegators never exceed the recorded share totals). -/
def C10_full_alloc_bounded : Prop :=
  ∀ (s : St) (delegs : List Nat) (rewards shares : Coins) (credits : List (Nat × Coins)) (d : Denom),
    capsOk s → (∀ sd total, (sd, total) ∈ shares → sumOver delegs (fun a => s.bal (.user a) sd) ≤ total) →
    poolCredits s delegs rewards shares = some credits → creditSum credits d ≤ get rewards d

/-- **Proved bound**: Σ credited ≤ Σ over the pool's share denoms of `RoundInt(reward · StakeCap)` — the integer
division of the per-delegator split never over-credits a denom's part. -/
theorem alloc_bounded_by_rounded_parts {s : St} {delegs : List Nat} {rewards shares : Coins}
    {credits : List (Nat × Coins)} (h : poolCredits s delegs rewards shares = some credits)
    (hb : ∀ sd total, (sd, total) ∈ shares → sumOver delegs (fun a => s.bal (.user a) sd) ≤ total) (d : Denom) :
    creditSum credits d ≤ allocSum s rewards d shares := by
  revert credits
  fun_induction poolCredits s delegs rewards shares <;> try (intro credits h; cases h; done)
  next => intro credits h; cases h; exact Nat.le_refl _  -- no share denom left
  -- a share denom that does not count credits nothing: its token is not registered, its cap is 0, or no shares of it are
  -- outstanding (three branches of the definition, one argument)
  iterate 3
    next ih =>
      intro credits h; cases h
      have hrest : poolCredits s delegs rewards _ = some _ := ‹_›  -- the credits of the remaining share denoms
      exact Nat.le_trans (ih (fun sd' t' hm => hb sd' t' (List.mem_cons_of_mem _ hm)) hrest) (Nat.le_add_left _ _)
  -- a share denom that counts: its credits are the delegators' parts of its allocation
  next sd total r rest hrest ti hti hc ht alloc hal ih =>
    intro credits h; cases h
    have := ih (fun sd' t' hm => hb sd' t' (List.mem_cons_of_mem _ hm)) hrest
    have := parts_le alloc delegs (fun a => s.bal (.user a) sd) total (by omega) (hb sd total List.mem_cons_self) d
    rw [creditSum_append, creditSum_creditsOfDenom]
    show _ ≤ denomPart s rewards d sd total + allocSum s rewards d r
    rw [denomPart_eq hti hc ht hal]; omega

/-- **Proved part** (`alloc_bounded`): … hence Σ credited ≤ the allocation whenever the per-denom rounded parts do
not already exceed it (the extra hypothesis `hround`, a decidable condition on the pool's share denoms and the reward amount) -/
theorem alloc_bounded_partial {s : St} {delegs : List Nat} {rewards shares : Coins}
    {credits : List (Nat × Coins)} (h : poolCredits s delegs rewards shares = some credits)
    (hb : ∀ sd total, (sd, total) ∈ shares → sumOver delegs (fun a => s.bal (.user a) sd) ≤ total) (d : Denom)
    (hround : allocSum s rewards d shares ≤ get rewards d) : creditSum credits d ≤ get rewards d :=
  Nat.le_trans (alloc_bounded_by_rounded_parts h hb d) hround

/-- the exclusion is empty for a pool with a single staked denom whose cap is in [0, 1] -/
theorem alloc_bounded_single_denom {s : St} {delegs : List Nat} {rewards : Coins} {sd : Denom} {total : Nat}
    {credits : List (Nat × Coins)} (h : poolCredits s delegs rewards [(sd, total)] = some credits)
    (hb : sumOver delegs (fun a => s.bal (.user a) sd) ≤ total)
    (hcap : ∀ ti, s.tokInfo ⟨0, sd.tok⟩ = some ti → 0 ≤ ti.stakeCap ∧ ti.stakeCap ≤ Dec.one) (d : Denom) :
    creditSum credits d ≤ get rewards d := by
  refine alloc_bounded_partial h (fun sd' t' hm => ?_) d ?_
  · cases List.mem_singleton.mp hm; exact hb
  · exact Nat.le_trans (Nat.le_of_eq (Nat.add_zero _)) (denomPart_le (fun ti hti => (hcap ti hti).2) d)

/-- the witness of the over-credit: one delegator holds all 1000 + 1000 shares of a pool staked in two denoms with
caps 0.5 + 0.5; an allocation of 3 ukex is split into RoundInt(1.5) + RoundInt(1.5) = 2 + 2 -/
def wCredit : St := run w0 [.upsert 0 0 true Dec.half, .delegate 2 0 [(ukex, 1000), (⟨0, 1⟩, 1000)]]

/-- **Counterexample (finding `C10/increase-pool-rewards/per-denom-rounding-over-credits`)**: 4 ukex credited out of an
allocation of 3. -/
theorem alloc_over_credit_counterexample : ¬ C10_full_alloc_bounded := by
  intro hfull
  have h : capsOk wCredit ∧
      (∀ x ∈ [((⟨1, 0⟩ : Denom), 1000), (⟨1, 1⟩, 1000)], sumOver [2] (fun a => wCredit.bal (.user a) x.1) ≤ x.2) ∧
      poolCredits wCredit [2] [(ukex, 3)] [(⟨1, 0⟩, 1000), (⟨1, 1⟩, 1000)] = some [(2, [(ukex, 2)]), (2, [(ukex, 2)])] := by
    unfold capsOk; decide +kernel
  have := hfull wCredit [2] [(ukex, 3)] _ _ ukex h.1 (fun sd total hm => h.2.1 (sd, total) hm) h.2.2
  revert this
  decide +kernel

/-- non-vacuity of the proved part: the same pool with an allocation of 4 ukex (2 + 2 = 4 ≤ 4) -/
example : ∃ credits, poolCredits wCredit [2] [(ukex, 4)] [(⟨1, 0⟩, 1000), (⟨1, 1⟩, 1000)] = some credits ∧
    allocSum wCredit [(ukex, 4)] ukex [(⟨1, 0⟩, 1000), (⟨1, 1⟩, 1000)] ≤ get [(ukex, 4)] ukex ∧ creditSum credits ukex = 4 :=
  ⟨[(2, [(ukex, 2)]), (2, [(ukex, 2)])], by decide +kernel⟩

/-! ## (f) rewards reach the proposer — they do not: the vote wipe -/

/-- the proposer's own part and the pool's part of one fee coin add up to its cut, and the cut never exceeds the
collected amount as long as the proposer has at most `snapPeriod` vote records (what `BeginBlocker`'s pruning keeps) -/
theorem fee_cut_bounded (amount pw snap : Nat) (share : Dec.D) (hs : 0 < snap) (hp : pw ≤ snap) :
    (feeCut amount pw snap share).1 + (feeCut amount pw snap share).2 = ((amount * pw / snap : Nat) : Int) ∧
    amount * pw / snap ≤ amount := by
  refine ⟨by unfold feeCut; simp only; omega, ?_⟩
  have : amount * pw ≤ amount * snap := Nat.mul_le_mul_left _ hp
  calc amount * pw / snap ≤ amount * snap / snap := Nat.div_le_div_right this
    _ = amount := Nat.mul_div_cancel _ hs

/-- and the validator's own part is within `[0, cut]` for a fee share in [0, 1] -/
theorem validator_part_bounded (amount pw snap : Nat) (share : Dec.D) (h0 : 0 ≤ share) (h1 : share ≤ Dec.one) :
    0 ≤ (feeCut amount pw snap share).1 ∧ (feeCut amount pw snap share).1 ≤ ((amount * pw / snap : Nat) : Int) :=
  ⟨Dec.roundMul_nonneg (Int.natCast_nonneg _) h0, Dec.roundMul_le (Int.natCast_nonneg _) h1⟩

example : feeCut 1001 3 5 Dec.half = (300, 300) := by decide +kernel

/-- **Full statement**: a proposer that has been signing is credited a positive amount whenever there is something to
distribute — here in its simplest instance: validator `p` is listed in the commit of block `h`, proposes it, a fee of
at least 2 ukex is collected, the snapshot window is 1 block and the validators' fee share is 50 %; then the next
block's `BeginBlocker` must increase `p`'s balance. -/
def C10_full_proposer_paid : Prop :=
  ∀ (s s1 s2 s3 : St) (h t t' p q payer fee : Nat) (commit commit' : List Nat),
    s.vals.lookup p = some true → s.snapPeriod = 1 → s.props.validatorsFeeShare = Dec.half → p ∈ commit → 2 ≤ fee →
    beginBlock s h t p commit = some s1 →
    payFee (endBlock s1) payer [(ukex, fee)] = some s2 →
    beginBlock s2 (h + 1) t' q commit' = some s3 →
    s2.bal (.user p) ukex < s3.bal (.user p) ukex

/-- **`EndBlocker` deletes every vote record the next `AllocateTokens` would count** (finding
`C10/distributor-endblock/vote-records-wiped-proposer-unpaid`): after the
`BeginBlocker` and `EndBlocker` of one block the set of vote records is empty, whatever the commit contained. -/
theorem endblock_wipes_vote_records {s s1 : St} {h t p : Nat} {commit : List Nat}
    (hb : beginBlock s h t p commit = some s1) : (endBlock s1).votes = [] ∧ ∀ v, power (endBlock s1) v = 0 :=
  ⟨endBlock_votes_eq_nil hb, fun v => power_of_no_votes (endBlock_votes_eq_nil hb) v⟩

/-- … hence the previous proposer's weight in the next block's allocation is 0 and **nobody is credited anything**:
no user balance and no recorded delegator reward changes in that `BeginBlocker`, whatever was collected. -/
theorem next_block_pays_nobody {s2 s3 : St} {h t q : Nat} {commit : List Nat} (hv : s2.votes = [])
    (hb : beginBlock s2 h t q commit = some s3) :
    s3.rewards = s2.rewards ∧ ∀ (i : Nat) (d : Denom), s3.bal (.user i) d = s2.bal (.user i) d := by
  obtain ⟨s1, hs1, rfl⟩ := beginBlock_some hb
  rcases hs1 with rfl | ⟨prev, ha⟩
  · exact ⟨rfl, fun _ _ => rfl⟩
  · have := allocate_without_votes (s := { s2 with height := h, now := t }) (power_of_no_votes hv _) ha
    exact ⟨this.1, this.2⟩

/-- the proposer is never paid: in EVERY run of the shape of the full statement its balance stays as it is -/
theorem proposer_never_paid (s s1 s2 s3 : St) (h t t' p q payer fee : Nat) (commit commit' : List Nat)
    (hb1 : beginBlock s h t p commit = some s1) (hf : payFee (endBlock s1) payer [(ukex, fee)] = some s2)
    (hb2 : beginBlock s2 (h + 1) t' q commit' = some s3) :
    s3.bal (.user p) ukex = s2.bal (.user p) ukex := by
  have hv : s2.votes = [] := by
    -- the fee payment between the blocks moves coins only
    obtain ⟨_, _, rfl⟩ := payFee_some hf
    exact endBlock_votes_eq_nil hb1
  exact (next_block_pays_nobody hv hb2).2 p ukex

/-- the start state of the closed run in `proposer_paid_counterexample` -/
def wBlk : St := { w0 with snapPeriod := 1, periodic := some (0, 0), yearStart := some (0, 0) }

/-- **Counterexample (same finding)**: the closed run exists, and `proposer_never_paid` applies to it. -/
theorem proposer_paid_counterexample : ¬ C10_full_proposer_paid := by
  intro hfull
  have hrun : ((beginBlock wBlk 1 1006 0 [0]).bind fun s1 => (payFee (endBlock s1) 2 [(ukex, 1000)]).bind fun s2 =>
      beginBlock s2 2 1012 0 [0]).isSome = true := by decide +kernel
  obtain ⟨s3, h⟩ := Option.isSome_iff_exists.mp hrun
  obtain ⟨s1, h1, h⟩ := Option.bind_eq_some_iff.mp h
  obtain ⟨s2, h2, h3⟩ := Option.bind_eq_some_iff.mp h
  have hlt := hfull wBlk s1 s2 s3 1 1006 1012 0 0 2 1000 [0] [0] (by decide +kernel) rfl rfl
    (by simp) (by omega) h1 h2 h3
  have heq := proposer_never_paid wBlk s1 s2 s3 1 1006 1012 0 0 2 1000 [0] [0] h1 h2 h3
  omega

/-- **Proved part**: with `pw ≥ 1` vote records the validator-reward list built by the fee loop of `AllocateTokens`
contains, for every collected coin whose cut `amount·pw/snapPeriod` has a positive rounded validator share, a positive
amount of that denom (this is what `AllocateTokensToValidator` then sends). The sub-threshold case — e.g. 200 ukex,
one record, window 1000 — is excluded by the hypothesis, not hidden. -/
theorem proposer_paid_partial (pw snap : Nat) (share : Dec.D) (fees : Coins) (d : Denom) (n : Nat)
    (hm : (d, n) ∈ fees) (hpos : 0 < (feeCut n pw snap share).1) :
    0 < get (feeRewards pw snap share fees).1 d := by
  induction fees with
  | nil => cases hm
  | cons x r ih =>
    obtain ⟨d0, n0⟩ := x
    rw [feeRewards_cons]
    rcases List.mem_cons.mp hm with e | hm'
    · cases e
      rw [if_pos hpos, get_cons, if_pos rfl]
      have : 0 < (feeCut n pw snap share).1.toNat := by omega
      omega
    · have := ih hm'
      split
      · rw [get_cons]; omega
      · exact this

/-- non-vacuity: three records in a window of five, 1001 ukex collected, fee share 50 % → the validator's part is 300 -/
example : 0 < (feeCut 1001 3 5 Dec.half).1 ∧ get (feeRewards 3 5 Dec.half [(ukex, 1001)]).1 ukex = 300 := by
  decide +kernel

/-! ### the token registry's stake-cap rule (x/tokens UpsertTokenInfo) -/

/-- **the registry keeps the hypothesis of the reward bound**: an accepted `UpsertTokenInfo` with a non-negative cap
leaves every cap non-negative and their sum - over all registered tokens, stake-enabled or not - at most 1 -/
theorem upsertTok_keeps_capsOk (s s' : St) (id : Nat) (ti : TokInfo) (h : capsOk s) (hn : 0 ≤ ti.stakeCap)
    (hu : upsertTok s id ti = some s') : capsOk s' := by
  obtain ⟨hsum, rfl⟩ := upsertTok_some hu
  refine ⟨fun t ht => ?_, hsum⟩
  rcases List.mem_append.mp ht with hm | hm
  · exact h.1 t (List.mem_filter.mp hm).1
  · rw [List.mem_singleton.mp hm]; exact hn

/-- the message path needs no side condition: `ValidateBasic` of `MsgUpsertTokenInfo` refuses a cap outside [0, 1] for
every token - stakeable or not - so a registration by message keeps `capsOk` as it is -/
theorem registerTok_keeps_capsOk (s s' : St) (id : Nat) (ti : TokInfo) (h : capsOk s)
    (hu : registerTok s id ti = some s') : capsOk s' := by
  obtain ⟨_, hn, _, _, hu⟩ := registerTok_some hu
  exact upsertTok_keeps_capsOk s s' id ti h hn hu

/-- a token that cannot be staked is held to the same range: a negative cap would cancel the caps of the others in the
registry's sum (-0.85 next to 0.5 + 0.25 + 0.1 leaves room for a further token at 100 %) -/
example :
    let s : St := { toks := [(0, ⟨true, 1, (5 * 10^17 : Int), 1⟩)] }
    registerTok s 6 ⟨false, 1, (-85 * 10^16 : Int), 1⟩ = none ∧
    (registerTok s 6 ⟨false, 1, (25 * 10^16 : Int), 1⟩).isSome = true := by decide +kernel

/-- what the range is for: with every cap non-negative, ANY selection of registered tokens - the ones a given pool
happens to hold - carries caps that add up to at most the registry's total, hence at most 1 -/
theorem caps_of_any_selection (l sub : List (Nat × TokInfo)) (hs : sub.Sublist l)
    (hn : ∀ t ∈ l, 0 ≤ t.2.stakeCap) :
    (sub.map (fun t => t.2.stakeCap)).sum ≤ (l.map (fun t => t.2.stakeCap)).sum := by
  induction hs with
  | slnil => simp
  | cons a _ ih =>
    have h1 := ih (fun t ht => hn t (List.mem_cons_of_mem _ ht))
    have ha : (0 : Int) ≤ a.2.stakeCap := hn a (List.mem_cons_self ..)
    simp only [List.map_cons, List.sum_cons]
    exact Int.le_trans h1 (Int.le_add_of_nonneg_left ha)
  | cons_cons a _ ih =>
    have h1 := ih (fun t ht => hn t (List.mem_cons_of_mem _ ht))
    simp only [List.map_cons, List.sum_cons]
    exact Int.add_le_add_left h1 _

/-- switching a token's staking off does not take its cap out of the sum: with ukex at 50 % and a disabled token at
25 %, a third token cannot get 50 % -/
example :
    let s : St := { toks := [(0, ⟨true, 1, (5 * 10^17 : Int), 0⟩), (1, ⟨false, 1, (25 * 10^16 : Int), 0⟩)] }
    upsertTok s 3 ⟨true, 1, (5 * 10^17 : Int), 0⟩ = none := by decide +kernel

/-! ## layer2 `MsgMintBurnTx` aimed at a pool's share tokens -/

/-- pool records, undelegations, delegator sets and recorded rewards are not touched: the burn changes the bank only -/
theorem l2_burn_keeps_pools (s s' : St) (a : Nat) (c : Coins) (h : l2Burn s a c = some s') :
    s'.pools = s.pools ∧ s'.undels = s.undels ∧ s'.delegators = s.delegators ∧ s'.rewards = s.rewards := by
  obtain ⟨_, _, rfl⟩ := l2Burn_some h
  exact ⟨rfl, rfl, rfl, rfl⟩

/-- … but clause (a) - share supply EQUAL to the recorded share total - is lost on the code as it is: after the first
delegation of the witness history (1000 shares outstanding, 1000 recorded) the delegator burns 400 of them through the
layer2 module: the supply is 600, the pool still records 1000 (finding `C10/l2-burn/share-supply-below-record`) -/
theorem l2_burn_share_supply_counterexample :
    let s := run w0 (wOps.take 2)
    AMap.get s.bank.supply ⟨1, 0⟩ = 1000 ∧ (findPool s 0).map (fun p => AMap.get p.shares ⟨1, 0⟩) = some 1000 ∧
    (l2Burn s 2 [(⟨1, 0⟩, 400)]).map (fun s' => (AMap.get s'.bank.supply ⟨1, 0⟩, (findPool s' 0).map (fun p => AMap.get p.shares ⟨1, 0⟩)))
      = some (600, some 1000) := by decide +kernel

/-! ### Key spaces of the stores this model keeps in separate maps (table `Gen.Keys`; why it matters: `Sekai/Model/Keys.lean`) -/

theorem multistaking_key_spaces_disjoint : Sekai.Keys.disjoint Sekai.Gen.Keys.stores "multistaking" = true :=
  Sekai.Keys.disjoint_of_pairwise_apart (by decide +kernel)

end Sekai.Props.C10
