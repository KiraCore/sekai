import SekaiProofs.Lemmas.Ante
import Sekai.Gen.App
import Sekai.Model.App
import Sekai.Gen.Ambient
import Sekai.Gen.Keys
import SekaiProofs.Lemmas.Keys
/-! # C09 — Fees: charged exactly as declared, within bounds; failed work leaves no trace

Theorems about `Sekai.Ante` (the executable model of `ValidateFeeRangeDecorator`, the stock fee deduction,
the execution-fee registration, baseapp's two cache branches and the feeprocessing keeper), for ALL
configurations and transactions: the decision of the fee validator; the payer is charged exactly the fee, a transaction
whose messages fail leaves the admission bookkeeping only and a rejected one nothing; execution-fee refunds never exceed
what was paid; obligations on the generated tables (chain order, ambient state, key spaces). The model is tied to /repo by the differential harness `harness/c09.go`
(signed transactions through the real ante chain; keeper-level runs of the feeprocessing functions).

`accept_iff_spec` is the decision of the fee validator under three hypotheses `… < 2^63`. Each is needed, and each failure
is a recorded finding with a closed witness: the execution-fee requirement (`accept_wraparound_counterexample`,
`accept_wraparound_sum_counterexample`: `C09/exec-fee/uint64-wraparound`), the two bounds
(`reject_wraparound_counterexample`, `accept_wraparound_bounds_counterexample`: `C09/fee-range/int64-cast-of-bounds`). -/
namespace Sekai.Props.C09
open Sekai Sekai.Ante Sekai.Lemmas.Ante

/-- **Decision logic of the fee validator** (no wrap-around in the `int64`/`uint64` casts): a fee is accepted
iff every fee coin is a registered, fee-enabled, non-frozen token (a foreign one only while foreign fee
payments are enabled) and the fee's value at the registered rates lies within `[MinTxFee, MaxTxFee]` and
covers `Σ max(ExecutionFee, FailureFee)` of the messages. Values are scaled by `Dec.P = 10^18`. -/
theorem accept_iff_spec (c : Cfg) (tx : Tx)
    (hmin : c.minTxFee < two63) (hmax : c.maxTxFee < two63) (hreq : execSpec c tx.msgs < two63) :
    validateFee c tx = .ok () ↔
      (∀ x ∈ tx.fee, CoinOk c x.1) ∧
      (c.minTxFee : Int) * Dec.P ≤ feeValue c tx.fee ∧
      feeValue c tx.fee ≤ (c.maxTxFee : Int) * Dec.P ∧
      (execSpec c tx.msgs : Int) * Dec.P ≤ feeValue c tx.fee := by
  rw [validateFee_eq_ok, toI64_of_lt hmin, toI64_of_lt hmax, toI64_of_lt hreq]

/-- non-vacuity: the default genesis configuration, a bank send with the default minimum fee -/
def cfg0 : Cfg := { tokens := [⟨"ukex", Dec.one, true⟩, ⟨"ubtc", 10 * Dec.one, true⟩, ⟨"frozen", Dec.one, true⟩],
                    black := ["frozen"], white := ["ukex"], execFees := [⟨"send", 10, 5⟩] }
def tx0 : Tx := ⟨[⟨"send", .send [("ukex", 5)] 2, 1⟩], [("ukex", 100)], 1⟩
example : validateFee cfg0 tx0 = .ok () := by decide
example : cfg0.minTxFee < two63 ∧ cfg0.maxTxFee < two63 ∧ execSpec cfg0 tx0.msgs < two63 := by decide
example : validateFee cfg0 { tx0 with fee := [("ukex", 99)] } = .error .feeRange := by decide
example : validateFee cfg0 { tx0 with fee := [("ubtc", 10)] } = .ok () := by decide
example : validateFee cfg0 { tx0 with fee := [("frozen", 100)] } = .error .feeFrozen := by decide

/-- an execution fee of 2^63 (a legal `uint64`) is read as a negative `int64` -/
def cfgWrapExec : Cfg := { cfg0 with execFees := [⟨"send", two63, 1⟩] }

/-- **Wrap-around changes the decision (accepting direction).** With an execution fee ≥ 2^63 registered, a
transaction is accepted although its fee does not cover the execution fee of its message. The hypothesis
`execSpec < 2^63` of `accept_iff_spec` cannot be dropped. Replayed on the real code by `harness/c09.go`
(finding `C09/exec-fee/uint64-wraparound`). -/
theorem accept_wraparound_counterexample :
    validateFee cfgWrapExec tx0 = .ok () ∧
    ¬ ((execSpec cfgWrapExec tx0.msgs : Int) * Dec.P ≤ feeValue cfgWrapExec tx0.fee) := by decide

/-- two execution fees of 2^63 each add up to 0 in `uint64` -/
def cfgWrapSum : Cfg := { cfg0 with execFees := [⟨"send", two63, 1⟩, ⟨"multisend", 1, two63⟩] }
def txWrapSum : Tx := ⟨[⟨"send", .send [("ukex", 5)] 2, 1⟩, ⟨"multisend", .multisend [("ukex", 5)] 2, 1⟩], [("ukex", 100)], 1⟩
theorem accept_wraparound_sum_counterexample :
    execReq cfgWrapSum txWrapSum.msgs 0 = 0 ∧ validateFee cfgWrapSum txWrapSum = .ok () ∧
    execSpec cfgWrapSum txWrapSum.msgs = two64 := by decide

def cfgWrapMax : Cfg := { cfg0 with maxTxFee := two63 }
/-- **Wrap-around changes the decision (rejecting direction).** `MaxTxFee ≥ 2^63` passes
`ValidateNetworkProperties` but is read as a negative bound: a fee inside `[MinTxFee, MaxTxFee]` that
satisfies every other condition is rejected (no transaction can be accepted at all). -/
theorem reject_wraparound_counterexample :
    validateFee cfgWrapMax tx0 = .error .feeRange ∧
    ((∀ x ∈ tx0.fee, x.1 = cfgWrapMax.native) ∧ (cfgWrapMax.minTxFee : Int) * Dec.P ≤ feeValue cfgWrapMax tx0.fee ∧
      feeValue cfgWrapMax tx0.fee ≤ (cfgWrapMax.maxTxFee : Int) * Dec.P ∧
      (execSpec cfgWrapMax tx0.msgs : Int) * Dec.P ≤ feeValue cfgWrapMax tx0.fee) := by
  decide

/-- both fee bounds at 2^63 and above (legal `uint64` values that `ValidateNetworkProperties` accepts) are read as
NEGATIVE `int64` bounds (and so is an execution fee of 2^63); a fee token registered with a negative rate (the registry
does not reject one) gives the fee a negative value that lies between them -/
def cfgWrapBounds : Cfg :=
  { cfg0 with minTxFee := two63 + 1, maxTxFee := two64 - 1, execFees := [⟨"send", two63, 1⟩],
              tokens := [⟨"ukex", Dec.one, true⟩, ⟨"tka", -Dec.one, true⟩] }
def txNegValue : Tx := ⟨[⟨"send", .send [("ukex", 5)] 2, 1⟩], [("tka", 807)], 1⟩

/-- **Wrap-around of the fee bounds (accepting direction).** A transaction whose fee has the value -807 is accepted
although the configured range is [2^63 + 1, 2^64 - 1]: the hypotheses `minTxFee < 2^63`, `maxTxFee < 2^63` of
`accept_iff_spec` cannot be dropped for the range test either (recorded finding `C09/fee-range/int64-cast-of-bounds`). -/
theorem accept_wraparound_bounds_counterexample :
    validateFee cfgWrapBounds txNegValue = .ok () ∧ feeValue cfgWrapBounds txNegValue.fee < 0 ∧
    ¬ ((cfgWrapBounds.minTxFee : Int) * Dec.P ≤ feeValue cfgWrapBounds txNegValue.fee) := by decide

structure AdmissionOnly (c : Cfg) (tx : Tx) (s s1 : State) : Prop where
  payer : ∀ d, s1.bal (.user tx.payer) d + amountOf tx.fee d = s.bal (.user tx.payer) d
  collector : ∀ d, s1.bal .feeCollector d = s.bal .feeCollector d + amountOf tx.fee d
  others : ∀ x d, x ≠ .user tx.payer → x ≠ .feeCollector → s1.bal x d = s.bal x d
  seqPayer : s1.seq tx.payer = s.seq tx.payer + 1
  seqOthers : ∀ i, i ≠ tx.payer → s1.seq i = s.seq i
  pubkeyOthers : ∀ i, i ≠ tx.payer → s1.hasPubKey i = s.hasPubKey i
  execs : s1.execs = s.execs ++ registerExec c tx.msgs
  hist : s1.hist = s.hist
  rest : s1.rest = s.rest

theorem ante_admission_only (c : Cfg) (tx : Tx) (s s1 : State) (h : ante c tx s = .ok s1) :
    AdmissionOnly c tx s s1 := by
  obtain ⟨s2, hd, rfl⟩ := (ante_ok h).state
  obtain ⟨b, rfl, hb⟩ := deductFee_ok hd
  exact {
    payer := fun d => (hb d).1
    collector := fun d => (hb d).2.1
    others := fun x d h1 h2 => (hb d).2.2 x h1 h2
    seqPayer := if_pos rfl
    seqOthers := fun i hi => if_neg hi
    pubkeyOthers := fun i hi => if_neg hi
    execs := rfl
    hist := rfl
    rest := rfl }

/-- **The fee payer is charged exactly the declared fee** (and the fee collector receives exactly it), for
every accepted transaction, whatever its messages do afterwards being a separate branch. -/
theorem charged_exactly (c : Cfg) (tx : Tx) (s s1 : State) (h : ante c tx s = .ok s1) (d : String) :
    s1.bal (.user tx.payer) d + amountOf tx.fee d = s.bal (.user tx.payer) d ∧
    s1.bal .feeCollector d = s.bal .feeCollector d + amountOf tx.fee d :=
  ⟨(ante_admission_only c tx s s1 h).payer d, (ante_admission_only c tx s s1 h).collector d⟩

/-- **A transaction whose messages fail leaves no effect of those messages**: for EVERY message branch
`run` (any message list, any handler behaviour, panics included as errors) that fails after an accepted
ante, the resulting state is the ante's state, which differs from the initial one only in the admission
bookkeeping. -/
theorem failed_tx_frame (c : Cfg) (tx : Tx) (run : State → Except Err State) (s s1 : State) (e : Err)
    (ha : ante c tx s = .ok s1) (hr : run s1 = .error e) :
    runTx c tx run s = (s1, .failed) ∧ AdmissionOnly c tx s s1 := by
  refine ⟨?_, ante_admission_only c tx s s1 ha⟩
  simp [runTx, ha, hr]

/-- a transaction the ante chain rejects leaves no trace at all -/
theorem rejected_tx_unchanged (c : Cfg) (tx : Tx) (run : State → Except Err State) (s : State) (e : Err)
    (ha : ante c tx s = .error e) : runTx c tx run s = (s, .rejected e) := by
  simp [runTx, ha]

/-- accepted transactions pass the fee validator (so `accept_iff_spec` applies to them) -/
theorem ante_validates (c : Cfg) (tx : Tx) (s s1 : State) (h : ante c tx s = .ok s1) : validateFee c tx = .ok () :=
  (ante_ok h).fee

def s0 : State := { bal := fun a d => if a = .user 1 ∧ d = "ukex" then 1000 else 0 }
def accepted (c : Cfg) (tx : Tx) (s : State) : Bool := match ante c tx s with | .ok _ => true | .error _ => false
example : accepted cfg0 tx0 s0 = true := by decide
example : (runTx cfg0 { tx0 with fee := [("ukex", 99)] } (fun s => .ok s) s0).2 = .rejected .feeRange := by decide
/-- insufficient funds are an ante rejection too (stock `DeductFeeDecorator`) -/
example : (runTx cfg0 { tx0 with fee := [("ukex", 1001)] } (fun s => .ok s) s0).2 = .rejected .funds := by decide
example : (runTx cfg0 tx0 (fun _ => .error .panic) s0).2 = .failed ∧
    (runTx cfg0 tx0 (fun _ => .error .panic) s0).1.bal (.user 1) "ukex" = 900 ∧
    (runTx cfg0 tx0 (fun _ => .error .panic) s0).1.bal .feeCollector "ukex" = 100 ∧
    (runTx cfg0 tx0 (fun _ => .error .panic) s0).1.execs = [⟨"send", 1, false⟩] := by decide

def cfgR : Cfg := { cfg0 with execFees := [⟨"claim_councilor", 100, 1⟩] }

/-- **Execution-fee refunds never exceed what the payer paid.** For every configuration (any rates, any
execution-fee table, wrap-around included), every list of execution records and every state: whatever
`ProcessExecutionFeeReturn` sends to an account is taken out of that account's recorded fee payments —
balance plus recorded payments is conserved per denomination, so the refund in a denomination is at most
what the account had paid in it (and the records are cleared). -/
theorem refund_le_paid (c : Cfg) (s s' : State) (h : processExecutionFeeReturn c s = .ok s') (i : Nat) (d : String) :
    s'.bal (.user i) d + amountOf (s'.hist i) d = s.bal (.user i) d + amountOf (s.hist i) d ∧
    s'.bal (.user i) d ≤ s.bal (.user i) d + amountOf (s.hist i) d ∧
    s'.execs = [] := by
  obtain ⟨s1, h1, rfl⟩ := processExecutionFeeReturn_ok h
  have : s1.bal (.user i) d + amountOf (s1.hist i) d = s.bal (.user i) d + amountOf (s.hist i) d :=
    returnLoop_heldPlusPaid h1 i d
  exact ⟨this, Nat.le.intro this, rfl⟩

/-- with non-negative fee rates the keeper never tries to pay back more of a coin than the payer holds in
its history (the `Coins.Sub` panic of the keeper is unreachable) -/
theorem payback_within_history (c : Cfg) (hr : ∀ t ∈ c.tokens, 0 ≤ t.rate) (total : Int) (ht : 0 ≤ total)
    (hist : Coins) (trip : List (String × Nat × Nat)) (h : paybackLoop c total hist 0 = .ok trip) :
    tripHeld trip = hist ∧ ∀ x ∈ trip, x.2.2 ≤ x.2.1 :=
  ⟨paybackLoop_held h, paybackLoop_paid_le_held h hr ht⟩

example : (∀ t ∈ cfgR.tokens, 0 ≤ t.rate) ∧ (0 : Int) ≤ requested cfgR [("ukex", 99)] := by decide

/-- the refund requested for one record never exceeds the amount the ante chain demanded for that message -/
theorem refundAmount_le_required (f : ExecFee) (success : Bool) : refundAmount f success ≤ (execMax f : Int) := by
  -- either cast is at most its argument, and that is a difference of the two fees
  have h1 := toI64_le (f.fail - f.exec)
  have h2 := toI64_le (f.exec - f.fail)
  rw [execMax_eq]
  unfold refundAmount
  cases success <;> simp <;> split <;> omega

def requiredOf (c : Cfg) : List ExecRec → Nat
  | [] => 0
  | r :: rest => (match execFee? c r.msgType with | none => 0 | some f => execMax f) + requiredOf c rest

/-- the records a transaction registers stand for exactly the execution-fee requirement its fee had to cover (the sum
`accept_iff_spec` compares the fee with; per record the refund is at most its share, `refundAmount_le_required`) -/
theorem registered_required (c : Cfg) (msgs : List Msg) : requiredOf c (registerExec c msgs) = execSpec c msgs := by
  induction msgs with
  | nil => rfl
  | cons m rest ih =>
    simp only [registerExec, execSpec]
    cases hf : execFee? c m.msgType with
    | none => simp [ih]
    | some f => simp [requiredOf, hf, ih]

/-- in the application as wired, fee payments are deducted by the stock bank keeper and never recorded in
the history: without history nothing is ever paid back -/
theorem refund_zero_without_history (c : Cfg) (s s' : State) (p : Nat) (amt : Coins) (hh : s.hist p = [])
    (h : sendFromCollector c s p amt = .ok s') : s'.bal = s.bal := by
  obtain ⟨trip, b, ht, _, hb, rfl⟩ := sendFromCollector_ok h
  -- the loop yields one triple per history coin: none
  have : tripHeld trip = [] := (paybackLoop_held ht).trans hh
  cases List.map_eq_nil_iff.mp this
  cases hb
  rfl

/-- non-vacuity: a failed `claim_councilor` (fee 100/1) is refunded 99 ukex-worth in the coins once paid -/
def sR : State := { bal := fun a _ => if a = .feeCollector then 1000 else 0, hist := fun i => if i = 1 then [("ubtc", 20), ("ukex", 300)] else [],
                    execs := [⟨"claim_councilor", 1, false⟩] }
def refunded (c : Cfg) (s : State) (i : Nat) (d : String) : Option Nat :=
  match processExecutionFeeReturn c s with | .ok s' => some (s'.bal (.user i) d) | .error _ => none
example : refunded cfgR sR 1 "ubtc" = some 9 ∧ refunded cfgR sR 1 "ukex" = some 9 := by decide

/-- "a failed transaction leaves no trace": the roll-back of a failed transaction (and of every discarded branch: the
dry-run of a submitted proposal, simulation, CheckTx) restores the key-value store and nothing else, so the claim needs
the application to keep no state outside the store. `Gen.Ambient.processState` lists every keeper / decorator / handler
field that can hold mutable data and every package-level variable that a function writes; the only entry is the upgrade
keeper's handler table (filled once at start-up). -/
theorem no_state_survives_a_rollback : Sekai.Gen.Ambient.processState =
    [("x/upgrade/keeper/keeper.go", "Keeper", "upgradeHandlers", "map[string]types.UpgradeHandler")] := by rfl

/-- The ante chain in the order `Ante.runTx` applies it: fee range, then deduction, then the poor-network and
frozen-token filters, then registration of the execution fee; each exactly once. -/
theorem ante_fee_wiring :
    Sekai.App.inOrder Sekai.Gen.App.anteChain
      ["NewValidateFeeRangeDecorator", "ante.NewDeductFeeDecorator", "NewPoorNetworkManagementDecorator",
       "NewBlackWhiteTokensCheckDecorator", "NewExecutionFeeRegistrationDecorator"] = true := by decide +kernel

/-- the fee-processing EndBlocker (execution-fee return) runs, and after the gov EndBlocker (enactment) -/
theorem feeprocessing_end_wiring :
    Sekai.App.before Sekai.Gen.App.endOrder "govtypes.ModuleName" "feeprocessingtypes.ModuleName" = true := by decide +kernel

/-! ### Key spaces of the stores this model keeps in separate maps (table `Gen.Keys`; why it matters: `Sekai/Model/Keys.lean`) -/

/-- x/feeprocessing keeps the execution records and the fee-payment history (`State.execs`, `State.hist`) in one store -/
theorem feeprocessing_key_spaces_disjoint : Sekai.Keys.disjoint Sekai.Gen.Keys.stores "feeprocessing" = true :=
  Sekai.Keys.disjoint_of_pairwise_apart (by decide +kernel)

/-- x/gov keeps what `Cfg` is read from: the network properties (fee bounds, switches, `MinValidators`), the execution-fee
table and the poor-network message list, in one store -/
theorem gov_key_spaces_disjoint : Sekai.Keys.disjoint Sekai.Gen.Keys.stores "gov" = true :=
  Sekai.Keys.disjoint_of_pairwise_apart (by decide +kernel)

end Sekai.Props.C09
