import SekaiProofs.Lemmas.Layer2Good
import SekaiProofs.Lemmas.Layer2LP
import SekaiProofs.Lemmas.Layer2Oper
import Sekai.Gen.Keys
import SekaiProofs.Lemmas.Keys
/-! # C20 — Layer-2 dApp bonds are escrowed one-to-one; the LP pool gives no free money

Model: `Sekai/Model/Layer2.lean` (mirrors `x/layer2` as coded; tied to the Go code by `harness/c20.go`, which makes the
compiled model reproduce every answer and every observation of the real keeper) and, for the section on bonded verifiers,
`Sekai/Model/Layer2Oper.lean` (`harness/c20_oper.go`); the file ends with the key spaces of the module's store.
Statements quantify over ALL states
satisfying the stated invariant and ALL operation lists (`run` = left fold of `step`, a failed operation leaves no trace).

Operation layers: `Op` = what is reachable through messages / EndBlocker / the UpsertDapp proposal (plus plain bank
transfers between users); `KOp` = the keeper-level LP functions, which the message handlers never reach as coded.

The inputs excluded where the code violates the property along a run are given as Boolean tests (`opOk`, `Op.isUpsert`,
`Op.withinMax`, `kopOk`); the single-step theorems `refund_in_full` and `no_free_money_round_trip_partial` take theirs as
propositions (`NoClash`, whose Boolean form over all dApps, `prefixFreeB`, is what `opOk` tests; positive records; a fair price).
Findings (replayed on
the real code by the harness):
* `C20/create-dapp/max-bond-unchecked`            creation never checks MaxDappBond
* `C20/create-dapp/negative-bond-recorded`        a permissioned creator's negative bond is recorded, never deposited
* `C20/bootstrap-refund/name-prefix-collision`    `GetUserDappBonds(name)` is a prefix scan: the refund of dApp "x" pays the
                                                  bonders of dApp "xy" and leaves their records (double withdrawal)
* `C20/bootstrap-refund/zero-bond-record-blocks-refund` one record with amount 0 makes every refund of that dApp fail forever
* `C20/upsert-dapp-proposal/overwrites-total-bond` the proposal stores its own `TotalBond`/`Status`
* `C20/lp-keeper/rounding-free-money` (latent)     both LP formulas round in the trader's favour
* `C20/lp-keeper/convert-same-dapp-stale-record` (latent) -/
namespace Sekai.Props.C20
open Sekai Sekai.Layer2

def ukex : Bytes := [117, 107, 101, 120]
def P0 : Params := { native := ukex, minBond := 1, maxBond := 2, bondDuration := 100, liqThreshold := 0, liqPeriod := 1000 }
def addr0 : Nat → Bytes := fun i => [107, 105, 114, 97, 49, 48 + i]
def bal0 : Acct → Bytes → Int := fun a d =>
  match a with
  | .user _ => if d = ukex then 10000000 else 0
  | _ => 0
def g0 : St := genesis P0 addr0 bal0
def mkDapp (name denom : Bytes) (ratio : Dec.D) (premint postmint : Int) (fee : Dec.D) (team : Option Nat) : Dapp :=
  { name := name, denom := denom, bondDenom := [], bond := 0, creationTime := 0, status := 0, ratio := ratio, drip := 50,
    premint := premint, postmint := postmint, poolFee := fee, liquidationStart := 0, premintTime := 0, teamReserve := team,
    postMintPaid := false, enableBondVerifiers := false }
def A : Bytes := [97]
def X : Bytes := [120]
def XY : Bytes := [120, 121]
def Z : Bytes := [122]
def alp : Bytes := [97, 108, 112]
def dappA : Dapp := mkDapp A alp Dec.one 0 0 0 none

theorem nativeNotLp_P0 : NativeNotLp P0 := by
  intro x h
  simp [lpOf, lpPrefix, P0, ukex] at h

theorem good_g0 : Good g0 := good_genesis P0 addr0 bal0 (by decide)

/-- a history with two users, a reclaim, an expiry with refund, and a re-creation -/
def opsBooks : List Op :=
  [.create 0 1 false dappA ukex 500000, .bond 2 A ukex 70000, .reclaim 2 A ukex 20000, .bond 1 A ukex 1,
   .msgSwap A, .endBlock 50, .create 60 2 false (mkDapp Z alp Dec.one 0 0 0 none) ukex 900000, .endBlock 101]

/-- **(a)** along every history of create / bond / reclaim / end-block / LP messages / transfers that stays inside the proven
region (`opOk`: no negative-bond creation by a permissioned account, no prefix collision when a block ends, no UpsertDapp),
the recorded bond of every user in every dApp equals the ghost ledger, which moves inside `escrowIn` / `escrowOut` together with
the bank transfer of the same amount (`ledger_moves_with_bank_…` below) and is set to 0 for a dApp, together with its bond records,
when it is launched (`finishBootstrap`) -/
theorem user_bond_books (s : St) (hG : Good s) (hn : NativeNotLp s.P) (ops : List Op) (hs : SafeRun s ops) :
    ∀ name u, bondAmt (run s ops).bonds name u = (run s ops).ledger name u :=
  (good_run ops hG hn hs).ledger

example : Good g0 ∧ NativeNotLp g0.P ∧ SafeRun g0 opsBooks ∧
    bondAmt (run g0 opsBooks).bonds Z 2 = 900000 ∧ (run g0 opsBooks).ledger Z 2 = 900000 ∧
    (run g0 opsBooks).ledger A 1 = 0 ∧ (run g0 opsBooks).bank.bal (.user 1) ukex = 10000000 :=
  ⟨good_g0, nativeNotLp_P0, by decide, by decide, by decide, by decide, by decide⟩

theorem ledger_moves_with_bank_in {s s1 : St} {u : Nat} {name den : Bytes} {amt : Int} (h : s.escrowIn u name den amt = some s1) :
    s1.ledger name u = s.ledger name u + amt ∧ s1.bank.bal (.user u) den = s.bank.bal (.user u) den - amt ∧
    s1.bank.bal .l2 den = s.bank.bal .l2 den + amt ∧ 0 < amt := by
  obtain ⟨bk, hbk, rfl⟩ := escrowIn_some h
  exact ⟨by simp, send_bal_src hbk (by simp), send_bal_dst hbk (by simp), (send_some hbk).2.1⟩

example : ∃ s1, g0.escrowIn 1 A ukex 5 = some s1 ∧ s1.ledger A 1 = 5 := ⟨_, rfl, by decide⟩

theorem ledger_moves_with_bank_out {s s1 : St} {u : Nat} {name den : Bytes} {amt : Int} (h : s.escrowOut u name den amt = some s1) :
    s1.ledger name u = s.ledger name u - amt ∧ s1.bank.bal (.user u) den = s.bank.bal (.user u) den + amt ∧
    s1.bank.bal .l2 den = s.bank.bal .l2 den - amt ∧ 0 < amt := by
  obtain ⟨bk, hbk, rfl⟩ := escrowOut_some h
  exact ⟨by simp, send_bal_dst hbk (by simp), send_bal_src hbk (by simp), (send_some hbk).2.1⟩

example : ∃ s1 s2, g0.escrowIn 1 A ukex 5 = some s1 ∧ s1.escrowOut 1 A ukex 3 = some s2 ∧ s2.ledger A 1 = 2 := ⟨_, _, rfl, rfl, by decide⟩

def C20_books_full : Prop :=
  ∀ (ops : List Op) (name : Bytes) (u : Nat), bondAmt (run g0 ops).bonds name u = (run g0 ops).ledger name u

/-- KNOWN FINDING `C20/create-dapp/negative-bond-recorded`: account 0 (permission) creates with bond −5: recorded, never paid -/
theorem books_negative_create_counterexample : ¬ C20_books_full := by
  intro h
  have := h [.create 0 0 true dappA ukex (-5)] A 0
  revert this
  decide

example : bondAmt (run g0 [.create 0 0 true dappA ukex (-5)]).bonds A 0 = -5 ∧
    (run g0 [.create 0 0 true dappA ukex (-5)]).bank.bal (.user 0) ukex = 10000000 := by decide

/-- the prefix-collision history: "x" (user 1) expires below its minimum while "xy" (user 2) and "z" (user 1) live on -/
def opsClash : List Op :=
  [.create 0 1 false (mkDapp X alp Dec.one 0 0 0 none) ukex 10000,
   .create 50 1 false (mkDapp Z alp Dec.one 0 0 0 none) ukex 700000,
   .create 50 2 false (mkDapp XY alp Dec.one 0 0 0 none) ukex 600000,
   .endBlock 101]

/-- KNOWN FINDING `C20/bootstrap-refund/name-prefix-collision` seen in the books: user 2 was paid back its 600000 by the
refund of dApp "x", yet its bond in "xy" is still recorded -/
theorem books_prefix_counterexample : ¬ C20_books_full := by
  intro h
  have := h opsClash XY 2
  revert this
  decide

example : bondAmt (run g0 opsClash).bonds XY 2 = 600000 ∧ (run g0 opsClash).ledger XY 2 = 0 ∧
    (run g0 opsClash).bank.bal (.user 2) ukex = 10000000 := by decide

/-- **(b)** for every history without an UpsertDapp proposal (prefix collisions, negative bonds … included): the books stay
consistent, in particular `TotalBond = Σ user bonds` for every bootstrapping dApp -/
theorem total_eq_sum (s : St) (hI : BooksInv s) (ops : List Op) (hops : ∀ op ∈ ops, op.isUpsert = false) :
    ∀ d ∈ (run s ops).dapps, d.status = 0 → d.bond = bondSum (run s ops).bonds d.name :=
  (books_run ops hI hops).sumEq

example : BooksInv g0 ∧ (∀ op ∈ opsBooks, op.isUpsert = false) ∧ (run g0 opsBooks).dapps.map (fun d => (d.name, d.bond, d.status)) = [(Z, 900000, 0)] :=
  ⟨good_g0.books, by decide, by decide⟩

def C20_total_eq_sum_full : Prop :=
  ∀ (ops : List Op), ∀ d ∈ (run g0 ops).dapps, d.status = 0 → d.bond = bondSum (run g0 ops).bonds d.name

def opsUpsert : List Op :=
  [.create 0 1 false dappA ukex 1000000, .upsert { dappA with bondDenom := ukex, bond := 3000000 }]

/-- KNOWN FINDING `C20/upsert-dapp-proposal/overwrites-total-bond` (books): recorded total 3000000, user bonds sum to 1000000 -/
theorem total_eq_sum_upsert_counterexample : ¬ C20_total_eq_sum_full := by
  intro h
  have := h opsUpsert { dappA with bondDenom := ukex, bond := 3000000 } (by decide) rfl
  revert this
  decide

example : (run g0 opsUpsert).dapps.map (·.bond) = [3000000] ∧ bondSum (run g0 opsUpsert).bonds A = 1000000 := by decide

def C20_total_le_max_full : Prop := ∀ (ops : List Op), MaxInv (run g0 ops)

/-- KNOWN FINDING `C20/create-dapp/max-bond-unchecked`: `CreateDappProposal` accepts a bond above MaxDappBond -/
theorem total_le_max_creation_counterexample : ¬ C20_total_le_max_full := by
  intro h
  have := h [.create 0 1 false dappA ukex 2000001] { dappA with bondDenom := ukex, bond := 2000001 } (by decide) rfl
  revert this
  decide

example : (run g0 [.create 0 1 false dappA ukex 2000001]).dapps.map (·.bond) = [2000001] ∧ (g0.P.maxBond : Int) * million = 2000000 := by decide

/-- **(c)** when every creation stays within the maximum (and there is no UpsertDapp proposal): no bootstrapping dApp ever
exceeds the maximum — bonding checks it, reclaiming and end-blocks only lower or remove -/
theorem total_le_max_partial (s : St) (hI : MaxInv s) (ops : List Op) (hops : ∀ op ∈ ops, op.withinMax s.P = true) :
    ∀ d ∈ (run s ops).dapps, d.status = 0 → d.bond ≤ ((run s ops).P.maxBond : Int) * million :=
  max_run ops hI hops

example : MaxInv g0 ∧ (∀ op ∈ opsBooks, op.withinMax g0.P = true) := ⟨fun d hd _ => by simp [g0, genesis] at hd, by decide⟩

/-- bonding up to the maximum is accepted, one unit more is rejected -/
example : (run g0 [.create 0 1 false dappA ukex 500000, .bond 2 A ukex 1500000, .bond 2 A ukex 1]).dapps.map (·.bond) = [2000000] := by decide

theorem endBlock_runs_finish (s : St) (t : Nat) (d : Dapp) (hst : d.status = 0) (hdue : d.creationTime + s.P.bondDuration ≤ t) :
    endBlockDapp s t d = finishBootstrap s t d := by
  rw [endBlockDapp_bootstrap hst, if_pos hdue]

example : dappA.status = 0 ∧ dappA.creationTime + g0.P.bondDuration ≤ 100 := by decide

/-- **(d)** a bootstrapping dApp below its minimum: every bonder receives exactly its recorded bond, the module pays out
exactly `TotalBond`, the dApp and all its bond records are gone — provided the refund scan meets no record of another
dApp (`NoClash`) and no record with a non-positive amount, and the module holds the total -/
theorem refund_in_full {s : St} {t : Nat} {d : Dapp} (hB : BooksInv s) (hd : d ∈ s.dapps) (hst : d.status = 0)
    (hlow : d.bond < (s.P.minBond : Int) * million) (hnc : NoClash s.addr s.bonds d.name)
    (hpos : ∀ b ∈ s.bonds, b.dapp = d.name → 0 < b.amt) (hvd : validDenom d.bondDenom = true)
    (hfunds : d.bond ≤ s.bank.bal .l2 d.bondDenom) :
    ∃ s', finishBootstrap s t d = .ok s' ∧ findDapp s'.dapps d.name = none ∧ (∀ u, bondAmt s'.bonds d.name u = 0) ∧
      (∀ u, s'.bank.bal (.user u) d.bondDenom = s.bank.bal (.user u) d.bondDenom + bondAmt s.bonds d.name u) ∧
      s'.bank.bal .l2 d.bondDenom = s.bank.bal .l2 d.bondDenom - d.bond := by
  obtain ⟨s1, hs1⟩ := refundLoop_own_succeeds hB hd hst hpos hvd hfunds
  have hre := refundLoop_own_of_books hB hd hst hs1
  exact ⟨_, finishBootstrap_low hlow (scan_eq_own hnc ▸ hs1), findDapp_delDapp _ _, fun u => (hre.own u).1, hre.users, hre.module⟩

def opsTwoBonders : List Op := [.create 0 1 false dappA ukex 500000, .bond 2 A ukex 70000, .reclaim 2 A ukex 20000]

example : (run g0 (opsTwoBonders ++ [.endBlock 100])).dapps.length = 0 ∧ (run g0 (opsTwoBonders ++ [.endBlock 100])).bonds.length = 0 ∧
    (run g0 (opsTwoBonders ++ [.endBlock 100])).bank.bal (.user 1) ukex = 10000000 ∧
    (run g0 (opsTwoBonders ++ [.endBlock 100])).bank.bal (.user 2) ukex = 10000000 ∧
    (run g0 (opsTwoBonders ++ [.endBlock 100])).bank.bal .l2 ukex = 0 ∧ (run g0 opsTwoBonders).bank.bal .l2 ukex = 550000 := by decide

/-- the full statement of (d) at the level of one end-block: every due, under-funded bootstrapping dApp is gone afterwards -/
def C20_refund_full : Prop :=
  ∀ (ops : List Op) (t : Nat), ∀ d ∈ (run g0 ops).dapps, d.status = 0 → d.creationTime + P0.bondDuration ≤ t →
    d.bond < (P0.minBond : Int) * million → findDapp (run g0 (ops ++ [.endBlock t])).dapps d.name = none

def opsZero : List Op := [.create 0 1 false dappA ukex 500000, .bond 2 A ukex 7, .reclaim 2 A ukex 7]

/-- KNOWN FINDING `C20/bootstrap-refund/zero-bond-record-blocks-refund`: user 2 bonds 7 and reclaims 7; the zero record
makes the bank refuse the refund loop, the expired dApp is never removed and user 1 is never refunded automatically -/
theorem refund_blocked_by_zero_record_counterexample : ¬ C20_refund_full := by
  intro h
  have := h opsZero 100 { dappA with bondDenom := ukex, bond := 500000 } (by decide) rfl (by decide) (by decide)
  revert this
  decide

example : (run g0 (opsZero ++ [.endBlock 100])).bank.bal (.user 1) ukex = 9500000 ∧
    (run g0 (opsZero ++ [.endBlock 100])).dapps.map (·.bond) = [500000] := by decide

/-- the full statement of (d) about the module: what it pays out at an end-block is exactly the recorded total of the
dApps it removes (a launch changes neither side) -/
def C20_refund_exact_full : Prop :=
  ∀ (ops : List Op) (t : Nat),
    (run g0 ops).bank.bal .l2 ukex - (run g0 (ops ++ [.endBlock t])).bank.bal .l2 ukex
      = nativeTotal (run g0 ops).dapps ukex - nativeTotal (run g0 (ops ++ [.endBlock t])).dapps ukex

/-- KNOWN FINDING `C20/bootstrap-refund/name-prefix-collision` (money): the refund of "x" (total 10000) pays out 610000:
user 2, who has no bond in "x", receives the 600000 it bonded to "xy"; the record in "xy" stays and is reclaimed a second
time out of the escrow of "z" (example below) -/
theorem refund_in_full_prefix_counterexample : ¬ C20_refund_exact_full := by
  intro h
  have := h (opsClash.take 3) 101
  revert this
  decide

example : (run g0 (opsClash ++ [.reclaim 2 XY ukex 600000])).bank.bal (.user 2) ukex = 10600000 ∧
    (run g0 (opsClash ++ [.reclaim 2 XY ukex 600000])).bank.bal .l2 ukex = 100000 ∧
    (run g0 (opsClash ++ [.reclaim 2 XY ukex 600000])).dapps.map (fun d => (d.name, d.bond)) = [(Z, 700000), (XY, 0)] := by decide

/-- **(e)** message level: along every history inside the proven region the layer-2 module account holds at least the sum
of the recorded `TotalBond`s (native denom) of all dApps, launched ones included -/
theorem pool_bond_held (s : St) (hG : Good s) (hn : NativeNotLp s.P) (ops : List Op) (hs : SafeRun s ops) :
    nativeTotal (run s ops).dapps (run s ops).P.native ≤ (run s ops).bank.bal .l2 (run s ops).P.native :=
  (good_run ops hG hn hs).held

example : SafeRun g0 opsBooks ∧ nativeTotal (run g0 opsBooks).dapps ukex = 900000 ∧ (run g0 opsBooks).bank.bal .l2 ukex = 900000 :=
  ⟨by decide, by decide, by decide⟩

def C20_pool_bond_held_full : Prop :=
  ∀ (ops : List Op), nativeTotal (run g0 ops).dapps ukex ≤ (run g0 ops).bank.bal .l2 ukex

/-- KNOWN FINDING `C20/upsert-dapp-proposal/overwrites-total-bond`: the proposal records 3000000, the module holds 1000000 -/
theorem pool_bond_held_upsert_counterexample : ¬ C20_pool_bond_held_full := by
  intro h
  have := h opsUpsert
  revert this
  decide

example : nativeTotal (run g0 opsUpsert).dapps ukex = 3000000 ∧ (run g0 opsUpsert).bank.bal .l2 ukex = 1000000 := by decide

/-- KNOWN FINDING `C20/bootstrap-refund/name-prefix-collision` (escrow): after the refund of "x" the module holds 700000
against recorded bonds of 1300000 -/
theorem pool_bond_held_prefix_counterexample : ¬ C20_pool_bond_held_full := by
  intro h
  have := h opsClash
  revert this
  decide

example : nativeTotal (run g0 opsClash).dapps ukex = 1300000 ∧ (run g0 opsClash).bank.bal .l2 ukex = 700000 := by decide

/-- launch of dApp "a": bond 1000000, pool ratio 0.00001 ⇒ LP deposit 10, premint 5 (to user 1), postmint 5 ⇒ supply 20 -/
def opsLaunch : List Op := [.create 0 1 false (mkDapp A alp 10000000000000 5 5 0 (some 1)) ukex 1000000, .endBlock 101]
def sLaunched : St := run g0 opsLaunch

/-- **(e)** keeper level: the escrow also survives every sequence of keeper-level swaps, redemptions and conversions with a
non-negative fee amount and distinct source / target (`kopOk`) -/
theorem pool_bond_held_keeper (s : St) (hH : HeldK s) (hn : NativeNotLp s.P) (ops : List KOp) (hs : KSafeRun s ops) :
    nativeTotal (krun s ops).dapps (krun s ops).P.native ≤ (krun s ops).bank.bal .l2 (krun s ops).P.native :=
  (heldK_krun ops hH hn hs).2

example : KSafeRun sLaunched [.swap 2 A 0 ukex 1, .redeem 101 2 A 0 (lpOf alp) 1] ∧
    nativeTotal (krun sLaunched [.swap 2 A 0 ukex 1, .redeem 101 2 A 0 (lpOf alp) 1]).dapps ukex = 952381 ∧
    (krun sLaunched [.swap 2 A 0 ukex 1, .redeem 101 2 A 0 (lpOf alp) 1]).bank.bal .l2 ukex = 952381 :=
  ⟨by decide, by decide, by decide⟩

def C20_pool_bond_held_keeper_full : Prop :=
  ∀ (ops : List Op) (kops : List KOp), nativeTotal (krun (run g0 ops) kops).dapps ukex ≤ (krun (run g0 ops) kops).bank.bal .l2 ukex

def opsLaunch2 : List Op := [.create 0 1 false (mkDapp A alp 500000000000000000 100000 0 100000000000000000 (some 1)) ukex 1000000, .endBlock 101]

/-- KNOWN FINDING (latent) `C20/lp-keeper/convert-same-dapp-stale-record`: `ConvertDappPoolTx(a, a)` writes the swap from the
record read before the redeem: recorded 1073078, held 996154 -/
theorem pool_bond_held_convert_same_counterexample : ¬ C20_pool_bond_held_keeper_full := by
  intro h
  have := h opsLaunch2 [.convert 101 1 A A (lpOf alp) 50000]
  revert this
  decide

example : nativeTotal (krun (run g0 opsLaunch2) [.convert 101 1 A A (lpOf alp) 50000]).dapps ukex = 1073078 ∧
    (krun (run g0 opsLaunch2) [.convert 101 1 A A (lpOf alp) 50000]).bank.bal .l2 ukex = 996154 := by decide

/-- **(f)** message level, handlers AS CODED (`if dapp.Name != "" { return ErrDappDoesNotExist }`): every swap, redemption and
conversion message is rejected in every state, for every dApp name, denom and amount … -/
theorem lp_msgs_always_rejected (s : St) (name lpDen : Bytes) :
    (∃ e, apply s (.msgRedeem name lpDen) = .error e) ∧ (∃ e, apply s (.msgSwap name) = .error e) ∧
    (∃ e, apply s (.msgConvert name) = .error e) :=
  ⟨lpMsg_error s rfl, lpMsg_error s rfl, lpMsg_error s rfl⟩

def errOf {α : Type} : Except Err α → Option Err
  | .error e => some e
  | .ok _ => none

example : errOf (apply sLaunched (.msgSwap A)) = some .noDapp ∧ errOf (apply sLaunched (.msgSwap Z)) = some .slippage ∧
    errOf (apply sLaunched (.msgRedeem A (lpOf alp))) = some .noDapp ∧ errOf (apply sLaunched (.msgRedeem Z (lpOf alp))) = some .invalidLp := by decide

/-- … hence at the message level no sequence of LP operations moves a single coin: `no_free_money` holds trivially -/
theorem no_free_money_msgs (s : St) (ops : List Op)
    (hops : ∀ op ∈ ops, (∃ n l, op = .msgRedeem n l) ∨ (∃ n, op = .msgSwap n) ∨ (∃ n, op = .msgConvert n)) : run s ops = s := by
  refine List.foldlRecOn (motive := (· = s)) ops step rfl fun σ hσ op hop => step_cases (I := (· = s)) hσ fun s' h => ?_
  rcases hops op hop with ⟨n, l, rfl⟩ | ⟨n, rfl⟩ | ⟨n, rfl⟩ <;> exact (lpMsg_not_ok h rfl).elim

example : run sLaunched [.msgSwap A, .msgRedeem A (lpOf alp), .msgConvert A] = sLaunched :=
  no_free_money_msgs _ _ (by simp)

/-- keeper level, full statement: a trader who runs keeper-level LP calls and ends with no fewer LP tokens has no more native coins -/
def C20_no_free_money_keeper_full : Prop :=
  ∀ (ops : List Op) (kops : List KOp) (u : Nat) (lp : Bytes),
    (run g0 ops).bank.bal (.user u) lp ≤ (krun (run g0 ops) kops).bank.bal (.user u) lp →
    (krun (run g0 ops) kops).bank.bal (.user u) ukex ≤ (run g0 ops).bank.bal (.user u) ukex

/-- KNOWN FINDING (latent) `C20/lp-keeper/rounding-free-money`: pool (1000000 ukex, LP supply 20). User 2 pays 1 ukex,
`S − ⌊TS/(T+1)⌋ = 1` LP token comes out (fair price 50000 ukex); redeeming it pays `T − ⌊TS/(S+1)⌋ = 47620` ukex.
Both formulas round in the trader's favour -/
theorem keeper_free_money_counterexample : ¬ C20_no_free_money_keeper_full := by
  intro h
  have := h opsLaunch [.swap 2 A 0 ukex 1, .redeem 101 2 A 0 (lpOf alp) 1] 2 (lpOf alp) (by decide)
  revert this
  decide

example : sLaunched.bank.bal (.user 2) ukex = 10000000 ∧
    (krun sLaunched [.swap 2 A 0 ukex 1, .redeem 101 2 A 0 (lpOf alp) 1]).bank.bal (.user 2) ukex = 10047619 ∧
    (krun sLaunched [.swap 2 A 0 ukex 1, .redeem 101 2 A 0 (lpOf alp) 1]).bank.bal (.user 2) (lpOf alp) = 0 := by decide

/-- **(f)** keeper level, single round trip (swap `b` native coins in, redeem every LP token received, any non-negative
fees): if the swap handed out no more LP than the pre-swap price allows (`T·L ≤ b·S`, the excluded inputs are exactly the
ones where the integer rounding of the swap favours the trader), the trader gets back at most what it paid -/
theorem no_free_money_round_trip_partial {s s1 s2 : St} {t u : Nat} {d d1 : Dapp} {fee1 fee2 : Dec.D} {b got out : Int}
    (hT : 0 ≤ d.bond) (hS : 0 ≤ s.bank.supply (lpOf d.denom)) (hf1 : 0 ≤ fee1) (hf2 : 0 ≤ fee2)
    (hsw : kSwap s u d fee1 s.P.native b = .ok (s1, got))
    (hd1 : findDapp s1.dapps d.name = some d1)
    (hrd : kRedeem s1 t u d1 fee2 (lpOf d.denom) got = .ok (s2, out))
    (hfair : d.bond * (swapMath d.bond (s.bank.supply (lpOf d.denom)) b fee1).1 ≤ b * s.bank.supply (lpOf d.denom)) :
    out ≤ b := by
  obtain ⟨L, f, b1, b2, b3, hms, hk⟩ := kSwap_ok hsw
  obtain rfl := hk.state
  obtain ⟨_, hbpos, _, _⟩ := send_some hk.coinsIn
  obtain ⟨_, hgotpos, _, _⟩ := send_some hk.lpOut
  obtain ⟨rn, rb, _, rd⟩ := swapRecord_fields s.P d b
  have hd1' : d1 = swapRecord s.P d b := by
    rw [← rn, findDapp_setDapp, if_pos rfl] at hd1
    exact (Option.some.inj hd1).symm
  subst hd1'
  obtain ⟨hL0, hLS⟩ := swapLp_bounds fee1 hT hS hbpos
  have hfn : 0 ≤ (swapMath d.bond (s.bank.supply (lpOf d.denom)) b fee1).2 := Dec.roundMul_nonneg hL0 hf1
  rw [hms] at hL0 hLS hfn hfair
  have hsup : b3.supply (lpOf d.denom) = s.bank.supply (lpOf d.denom) - f := by
    rw [send_supply hk.lpOut, send_supply hk.coinsIn, (collectFee_spec hk.feeBurnt).2.1]
    split <;> omega
  obtain ⟨T', f2, c1, c2, c3, hmr, hr⟩ := kRedeem_ok hrd
  simp only [rd, rb, hsup, hk.out_eq] at hmr
  have hle := redeem_no_gain hT hbpos hfn hLS (hk.out_eq ▸ hgotpos) hf2 hfair
  rw [hmr] at hle
  rw [hr.out_eq, rb]
  exact hle

/-- a round trip inside the proven region: pool (1000000 ukex, 20 LP), fee 1 %: 50000 ukex buy exactly 1 LP token (the fair
price), redeeming it returns 49500 -/
example : (match kapply sLaunched (.swap 2 A 10000000000000000 ukex 50000) with
    | some (.ok (s1, got)) =>
      (match kapply s1 (.redeem 101 2 A 10000000000000000 (lpOf alp) got) with
       | some (.ok (_, out)) => some (got, out)
       | _ => none)
    | _ => none) = some (1, 49500) ∧
    (1000000 : Int) * (swapMath 1000000 20 50000 10000000000000000).1 ≤ 50000 * 20 := by decide

/-! ## bonded verifiers (`joinVerifier`, `refundExiting` of `Sekai/Model/Layer2Oper.lean`) -/

def owedTo (u : Nat) : List Oper → Int
  | [] => 0
  | o :: rest => (if o.status = 3 ∧ 0 < o.bonded ∧ o.user = u then o.bonded else 0) + owedTo u rest

def owedAll : List Oper → Int
  | [] => 0
  | o :: rest => (if o.status = 3 ∧ 0 < o.bonded then o.bonded else 0) + owedAll rest

/-- **the refund pays the RECORD**: after the refund loop every user holds its LP balance plus exactly the bonds recorded
on its exiting operators, the module holds that much less, and no other denomination moves - whatever the dApp's bond, LP
supply or pool look like by then -/
theorem refund_pays_recorded (lp : Bytes) (l : List Oper) (b b' : Bank) (h : refundExiting b lp l = some b') :
    (∀ u, b'.bal (.user u) lp = b.bal (.user u) lp + owedTo u l) ∧
    b'.bal .l2 lp = b.bal .l2 lp - owedAll l ∧
    (∀ a d, d ≠ lp → b'.bal a d = b.bal a d) ∧ b'.supply = b.supply := by
  fun_induction refundExiting b lp l with
  | case1 => cases h; exact ⟨fun _ => (Int.add_zero _).symm, (Int.sub_zero _).symm, fun _ _ _ => rfl, rfl⟩   -- no operator left
  | case2 => cases h                    -- the send to an exiting operator fails: the keeper panics
  | case3 b o rest hc b1 hs ih =>       -- `o` is exiting with a positive record: it is paid
    obtain ⟨i1, i2, i3, i4⟩ := ih h
    refine ⟨fun u => ?_, ?_, fun a d hd => (i3 a d hd).trans (send_other_denom hs a d hd), i4.trans (send_supply hs)⟩
    · rw [i1 u, owedTo]
      by_cases hu : o.user = u
      · subst hu
        rw [send_bal_dst hs (by simp), if_pos ⟨hc.1, hc.2, rfl⟩]
        omega
      · rw [send_bal_other hs (by simp) (fun e => hu (Acct.user.inj e).symm), if_neg (fun hh => hu hh.2.2)]
        omega
    · rw [i2, send_bal_src hs (by simp), owedAll, if_pos hc]
      omega
  | case4 b o rest hc ih =>             -- `o` is not exiting, or has nothing recorded: passed by
    obtain ⟨i1, i2, i3, i4⟩ := ih h
    refine ⟨fun u => ?_, ?_, i3, i4⟩
    · rw [i1 u, owedTo, if_neg (fun hh => hc ⟨hh.1, hh.2.1⟩)]
      omega
    · rw [i2, owedAll, if_neg hc]
      omega

/-- **joining locks what is recorded**: a successful `MsgJoinDappVerifierWithBond` records the amount that left the
account (the lock computed from the dApp as it is NOW) and moves exactly that amount to the module -/
theorem join_locks_recorded (s s' : St) (ops ops' : List Oper) (u : Nat) (name : Bytes) (vbond : Dec.D)
    (h : joinVerifier s ops u name vbond = .ok (s', ops')) :
    ∃ d o, findDapp s.dapps name = some d ∧ d.enableBondVerifiers = true ∧
      findOper ops' name u = some o ∧ o.verifier = true ∧ o.bonded = verifierLp d vbond ∧ 0 ≤ o.bonded ∧
      s'.bank.bal (.user u) (lpOf d.denom) = s.bank.bal (.user u) (lpOf d.denom) - o.bonded ∧
      s'.bank.bal .l2 (lpOf d.denom) = s.bank.bal .l2 (lpOf d.denom) + o.bonded ∧ s'.dapps = s.dapps := by
  obtain ⟨d, b, hj, rfl, rfl⟩ := joinVerifier_ok h
  have h0 := hj.lockNonneg
  obtain ⟨r1, r2, r3, r4⟩ := joinRecord_fields ops name u (verifierLp d vbond)
  obtain ⟨l1, l2⟩ := lockLp_spec hj.locked h0
  have hfind := findOper_setOper_self ops (joinRecord ops name u (verifierLp d vbond))
  rw [r1, r2] at hfind
  exact ⟨d, _, hj.dapp, hj.enabled, hfind, r3, r4, r4.symm ▸ h0, r4.symm ▸ l1, r4.symm ▸ l2, rfl⟩

/-- the verifier receives the 3000 of its record, whatever 0.1 % of the LP supply is by then -/
example :
    let o : Oper := { dapp := A, user := 2, executor := false, verifier := true, status := 3, bonded := 3000 }
    let b : Bank := { bal := fun a d => if a = Acct.l2 ∧ d = lpOf alp then 5000 else 0, supply := fun _ => 0, tokReg := fun _ => false }
    ((refundExiting b (lpOf alp) [o]).map fun b' => (b'.bal (.user 2) (lpOf alp), b'.bal .l2 (lpOf alp))) = some (3000, 2000) := by
  decide

/-! ### Key spaces of the stores this model keeps in separate maps (table `Gen.Keys`; why it matters: `Sekai/Model/Keys.lean`) -/

theorem layer2_key_spaces_disjoint : Sekai.Keys.disjoint Sekai.Gen.Keys.stores "layer2" = true :=
  Sekai.Keys.disjoint_of_pairwise_apart (by decide +kernel)

end Sekai.Props.C20
