import SekaiProofs.Lemmas.Stake
import SekaiProofs.Lemmas.Fold
import Sekai.Gen.App
import Sekai.Model.App
import Sekai.Gen.Keys
import SekaiProofs.Lemmas.Keys
/-! # C05 — Validator updates keep consensus and application validator sets equal

`Sync` is the inductive invariant relating statuses, the removing / reactivating queues and the consensus set.
The operations excluded by `Good` are the recorded findings about absent removals and stale views; those of the owner's Pause, jail,
the keeper-level Pause and the rank reset have a closed counterexample on the list-level `endBlock` (which includes CometBFT's rules),
those of signatures and evidence none of their own. CometBFT's third rule, a non-empty resulting set, is
outside `applicable`: `Good` does not exclude `all_pause_counterexample`. The second half takes in joining validators (`stepC`: MsgClaimValidator
and the pending queue, with `PInv` for the accounts without a record) and the recovery rotation of an owner; after the two table
obligations (module order, key spaces) the file ends with a two-line model of what this one cannot say: two records behind one
consensus key. -/
namespace Sekai.Props.C05
open Sekai.Stake

/-- the invariant, about each validator by itself: how its status, its entries in the removing queue `R` and the
reactivating queue `A`, and its membership in the consensus set `V` hang together between two drains of the queues.
It reads these four fields only: `Sync.congr` carries it over to a state that differs in other fields, and its four
hypotheses default to `rfl`, which closes them when the other fields alone were written. -/
structure Sync (s : S) : Prop where
  r_in   : ∀ v, s.R v = true → s.V v = true ∧ s.A v = false ∧ s.status v ≠ .active
  /-- queued for reactivation: the consensus set may hold it already (paused and unpaused within the block) -/
  a_act  : ∀ v, s.A v = true → s.status v = .active ∧ s.R v = false
  rest   : ∀ v, s.R v = false → s.A v = false → (s.V v = true ↔ s.status v = .active)

/-- CometBFT applicability of the drained queues (abstractly): no removal of an absent key, no key twice; the third rule of
`Stake.applyUpdates`, a non-empty result, is not part of it -/
def applicable (s : S) : Prop := (∀ v, s.R v = true → s.V v = true) ∧ (∀ v, ¬ (s.R v = true ∧ s.A v = true))

def drainV (s : S) : Nat → Bool := fun v => if s.R v then false else if s.A v then true else s.V v

/-- the operations covered: a validator is demoted (paused, inactivated, jailed) only while the consensus set
holds it — i.e. not one that was unpaused / activated earlier in the same block, not one already out of the
set —, and a network-wide rank reset only while every validator is active. -/
def Good (p : Params) (s : S) : Op → Prop
  | .msgPause v => s.status v = .active → s.V v = true
  | .sig v signed _ => s.status v = .active → s.V v = true
  | .jail v _ => s.status v ≠ .jailed → s.V v = true
  | .evidence v _ known stale => known = true → stale = false → s.status v ≠ .jailed → s.V v = true
  | .kPause v => s.status v ≠ .inactive → s.V v = true
  | .rankReset => ∀ v, s.status v = .active
  | _ => True

theorem drain_iff {s : S} (h : Sync s) (v : Nat) : drainV s v = true ↔ s.status v = .active := by
  unfold drainV
  by_cases hr : s.R v = true
  · simp [hr]; exact (h.r_in v hr).2.2
  · by_cases ha : s.A v = true
    · simp [hr, ha]; exact (h.a_act v ha).1
    · simp [hr, ha]; exact h.rest v (by simpa using hr) (by simpa using ha)

theorem sync_applicable {s : S} (h : Sync s) : applicable s := by
  refine ⟨fun v hv => (h.r_in v hv).1, fun v hra => ?_⟩
  have := (h.r_in v hra.1).2.1; simp [hra.2] at this

theorem Sync.of_frame {s s' : S} {v : Nat} (h : Sync s) (hf : FrameAt v s s')
    (h1 : s'.R v = true → s'.V v = true ∧ s'.A v = false ∧ s'.status v ≠ .active)
    (h2 : s'.A v = true → s'.status v = .active ∧ s'.R v = false)
    (h3 : s'.R v = false → s'.A v = false → (s'.V v = true ↔ s'.status v = .active)) : Sync s' := by
  -- the invariant speaks of each validator by itself; for each of its three clauses in turn: at `v` it is the hypothesis,
  -- elsewhere it is inherited through the frame
  constructor <;> intro w <;> by_cases e : w = v
  · exact e ▸ h1
  · obtain ⟨a, b, c, d⟩ := hf.1 w e; rw [a, b, c, d]; exact h.r_in w
  · exact e ▸ h2
  · obtain ⟨a, b, c, d⟩ := hf.1 w e; rw [a, c, d]; exact h.a_act w
  · exact e ▸ h3
  · obtain ⟨a, b, c, d⟩ := hf.1 w e; rw [a, b, c, d]; exact h.rest w

theorem sync_demote {s : S} (h : Sync s) (v : Nat) (st : Status) (hst : st ≠ .active) (hV : s.V v = true) :
    Sync (demote s v st) :=
  h.of_frame (.demote s v st) (fun _ => by simp [demote, hV, hst]) (by simp [demote]) (by simp [demote])

theorem sync_promote {s : S} (h : Sync s) (v : Nat) : Sync (promote s v) :=
  h.of_frame (.promote s v) (by simp [promote]) (by simp [promote]) (by simp [promote])

/-- an unjail proposal: Jailed → Inactive, queues untouched -/
theorem sync_release {s : S} (h : Sync s) (v : Nat) (hj : s.status v = .jailed) :
    Sync { s with status := upd s.status v .inactive, jailTime := upd s.jailTime v none } := by
  refine h.of_frame (v := v) ⟨fun w hw => by simp [hw], rfl, rfl⟩ (fun hr => ?_) (fun ha => ?_) (fun hr ha => ?_)
  · simpa using And.intro (h.r_in v hr).1 (h.r_in v hr).2.1
  · have := (h.a_act v ha).1; rw [hj] at this; cases this
  · have := h.rest v hr ha; rw [hj] at this; simpa using this

theorem Sync.congr {s s' : S} (h : Sync s) (h1 : s'.status = s.status := by rfl) (h2 : s'.R = s.R := by rfl)
    (h3 : s'.A = s.A := by rfl) (h4 : s'.V = s.V := by rfl) : Sync s' := by
  constructor
  · intro v; rw [h1, h2, h3, h4]; exact h.r_in v
  · intro v; rw [h1, h2, h3]; exact h.a_act v
  · intro v; rw [h1, h2, h3, h4]; exact h.rest v

/-- **every good operation preserves the invariant** -/
theorem sync_step (p : Params) (s s' : S) (op : Op) (h : Sync s) (hg : Good p s op) (hs : step p s op = some s') : Sync s' := by
  cases Step.of_step hs with
  | pause _ ha => exact sync_demote h _ .paused (by decide) (hg ha)
  | unpause _ => exact sync_promote h _
  | activate _ _ => exact (sync_promote h _).congr
  | sig _ _ => exact h.congr
  | sigDown ha _ => exact (sync_demote h _ .inactive (by decide) (hg ha)).congr
  | sigSkip _ => exact h
  | jail hn => exact (sync_demote h _ .jailed (by decide) (hg hn)).congr
  | jailSkip _ => exact h
  | evidence hn => exact (sync_demote h _ .jailed (by decide) (hg rfl rfl hn)).congr
  | evidenceJailed _ => exact h.congr
  | evidenceSkip _ => exact h
  | unjail hj _ _ => exact sync_release h _ hj
  | kPause hn => exact sync_demote h _ .paused (by decide) (hg hn)
  | kPauseSkip _ => exact h
  | rankReset =>
    have hall : ∀ v, s.status v = .active := hg
    constructor
    · intro w hw; exact absurd (hall w) (h.r_in w hw).2.2
    · intro w hw; exact ⟨rfl, (h.a_act w hw).2⟩
    · intro w hr ha; have := h.rest w hr ha; simp [hall w] at this; simpa using this

/-- **for every sequence of operations inside a block, each good at the moment it runs, the updates returned at the
end of the block can be applied by the consensus engine (no removal of an absent key, no key twice) and afterwards
the consensus set is exactly the set of validators the application records as active** -/
theorem sync_block (p : Params) (s : S) (h : Sync s) (ops : List Op)
    (hg : ∀ (pre : List Op) (op : Op) (post : List Op), ops = pre ++ op :: post → Good p (pre.foldl (apply p) s) op) :
    let s' := ops.foldl (apply p) s
    applicable s' ∧ ∀ v, drainV s' v = true ↔ s'.status v = .active := by
  have key : Sync (ops.foldl (apply p) s) :=
    Fold.getD_inv_guarded (f := step p) ops (fun s op s' h hg hs => sync_step p s s' op h hg hs) h hg
  exact ⟨sync_applicable key, drain_iff key⟩

/-- after the drain the invariant holds again (queues empty, consensus set = active set): blocks compose -/
theorem sync_after_drain (s : S) (h : Sync s) :
    Sync { s with V := drainV s, R := fun _ => false, A := fun _ => false } := by
  constructor
  · intro v hv; simp at hv
  · intro v hv; simp at hv
  · intro v _ _; exact drain_iff h v

def pr : Params := { nVals := 3, minValidators := 1 }
/-- validators 0, 1, 2 active and in the consensus set; every other index is active too (the default status) and outside `V`, so
`Sync s3` does NOT hold (`s3c` below does satisfy `Sync ∧ PInv`) -/
def s3 : S := { V := fun v => decide (v < 3) }
/-- validator 0 paused and out of the consensus set -/
def s3p : S := { status := fun v => if v = 0 then .paused else .active, V := fun v => decide (v = 1 ∨ v = 2) }

def endOk (n : Nat) (s : S) : Bool := match (endBlock n s).2 with | .ok _ => true | .error _ => false
def endErr (n : Nat) (s : S) : Option CometErr := match (endBlock n s).2 with | .ok _ => none | .error e => some e

example : endOk 3 ([Op.msgPause 0, .jail 1 5, .msgUnpause 0].foldl (apply pr) s3) = true := by decide

/-- finding: `[MsgUnpause, MsgPause]` of a paused validator in one block ⇒ removal of an absent key -/
theorem unpause_pause_counterexample :
    endErr 3 ([Op.msgUnpause 0, .msgPause 0].foldl (apply pr) s3p) = some .removeAbsent := by decide
/-- finding: jailing a paused (or inactive) validator ⇒ removal of an absent key -/
theorem jail_paused_counterexample : endErr 3 ([Op.jail 0 5].foldl (apply pr) s3p) = some .removeAbsent := by decide
/-- finding: a rank reset makes the application count a paused validator active while consensus does not hold it -/
theorem rank_reset_counterexample :
    let s' := [Op.rankReset].foldl (apply pr) s3p
    endOk 3 s' = true ∧ s'.status 0 = .active ∧ drainV s' 0 = false := by decide
/-- finding: the keeper-level Pause used by the upgrade plan pauses an already paused validator again ⇒ removal of an absent key -/
theorem kpause_paused_counterexample : endErr 3 ([Op.kPause 0].foldl (apply pr) s3p) = some .removeAbsent := by decide
/-- finding: the Pause guard counts all validator records, not the active ones: every validator can pause ⇒ empty set -/
theorem all_pause_counterexample :
    endErr 3 ([Op.msgPause 0, .msgPause 1, .msgPause 2].foldl (apply pr) s3) = some .emptySet := by decide

/-- accounts without a validator record are outside everything; pending entries belong to such accounts -/
structure PInv (s : S) : Prop where
  out : ∀ v, s.claimed v = false → s.status v = .inactive ∧ s.V v = false ∧ s.R v = false ∧ s.A v = false
  pend : ∀ v, s.P v = true → s.claimed v = false

theorem step_frame (p : Params) (s s' : S) (op : Op) (v : Nat) (hsub : subject op = some v)
    (hs : step p s op = some s') :
    (∀ w, w ≠ v → s'.status w = s.status w ∧ s'.V w = s.V w ∧ s'.R w = s.R w ∧ s'.A w = s.A w) ∧
    s'.claimed = s.claimed ∧ s'.P = s.P :=
  Step.frame (Step.of_step hs) hsub

def GoodC (p : Params) (s : S) : OpC → Prop
  | .claim _ => True
  | .base op => Good p s op

theorem PInv.of_frame {s s' : S} {v : Nat} (hp : PInv s) (hcl : s.claimed v = true) (hf : FrameAt v s s') : PInv s' := by
  obtain ⟨hf, hc, hP⟩ := hf
  constructor
  · intro w hw
    rw [hc] at hw
    have hne : w ≠ v := by intro e; subst e; simp [hcl] at hw
    obtain ⟨a, b, c, d⟩ := hf w hne
    rw [a, b, c, d]; exact hp.out w hw
  · intro w hw; rw [hP] at hw; rw [hc]; exact hp.pend w hw

theorem syncC_sub {p : Params} {s s' : S} {op : Op} {v : Nat} (hs : stepC p s (.base op) = some s')
    (hsub : subject op = some v) (h : Sync s) (hp : PInv s) (hg : Good p s op) : Sync s' ∧ PInv s' := by
  rw [stepC_sub p s hsub] at hs
  cases hc : s.claimed v with
  | true =>
    simp only [hc, if_true] at hs
    exact ⟨sync_step p s s' op h hg hs, hp.of_frame hc (step_frame p s s' op v hsub hs)⟩
  | false =>
    simp only [hc, Bool.false_eq_true, if_false] at hs
    split at hs <;> cases hs      -- a message about an account without a record fails
    exact ⟨h, hp⟩                 -- block-level processing passes it over

/-- **every covered operation - MsgClaimValidator included - preserves the invariant and the bookkeeping of
unclaimed accounts** -/
theorem syncC_step (p : Params) (s s' : S) (op : OpC) (h : Sync s) (hp : PInv s) (hg : GoodC p s op)
    (hs : stepC p s op = some s') : Sync s' ∧ PInv s' := by
  cases op with
  | claim v =>
    rw [stepC_claim] at hs
    split at hs <;> cases hs      -- refused when a record exists
    next hc =>                    -- otherwise the account is entered in the pending queue
      refine ⟨h.congr, ⟨hp.out, fun w hw => ?_⟩⟩
      by_cases e : w = v
      · subst e; simpa using hc
      · exact hp.pend w (by simpa [e] using hw)
  | base op =>
    cases op with
    | rankReset =>
      -- all are active, so every account has a record and the reset is that of `step`
      have hall : ∀ v, s.status v = .active := hg
      have hcl : ∀ v, s.claimed v = true := fun v => by
        cases hc : s.claimed v with
        | true => rfl
        | false => have := (hp.out v hc).1; rw [hall v] at this; cases this
      simp only [stepC_rankReset, hcl, if_true, Option.some.injEq] at hs
      subst hs
      exact ⟨sync_step p s _ .rankReset h hg rfl, fun v hv => by simp [hcl v] at hv, hp.pend⟩
    | _ => exact syncC_sub hs rfl h hp hg

theorem join_one {s : S} (h : Sync s) (hp : PInv s) (v : Nat) : Sync (joinOne s v) ∧ PInv (joinOne s v) := by
  unfold joinOne
  split
  · -- `v` is pending: it becomes a record, Active and queued for reactivation; the other accounts keep what they had
    refine ⟨(sync_promote h v).congr, fun w hw => ?_, fun w hw => ?_⟩
    · have e : w ≠ v := by intro e; subst e; simp at hw
      simpa [promote, e] using hp.out w (by simpa [e] using hw)
    · have e : w ≠ v := by intro e; subst e; simp at hw
      simpa [e] using hp.pend w (by simpa [e] using hw)
  · exact ⟨h, hp⟩      -- not pending: nothing happens

theorem join_pending (n : Nat) (s : S) (h : Sync s) (hp : PInv s) : Sync (joinPending n s) ∧ PInv (joinPending n s) :=
  List.foldlRecOn (motive := fun s => Sync s ∧ PInv s) (List.range n) joinOne ⟨h, hp⟩
    fun _ hs v _ => join_one hs.1 hs.2 v

/-- a second claim by an account that already has a validator record is refused, whatever key or moniker it names -/
theorem claim_refused_when_record_exists (p : Params) (s : S) (v : Nat) (hc : s.claimed v = true) :
    stepC p s (.claim v) = none := by rw [stepC_claim, if_pos hc]

/-- **with joining validators**: for every sequence of covered operations inside a block - claims included -, once the
pending entries have become records the drained queues can be applied by the consensus engine and the new consensus
set is exactly the set of validators the application records as active (new validators included) -/
theorem syncC_block (p : Params) (n : Nat) (s : S) (h : Sync s) (hp : PInv s) (ops : List OpC)
    (hg : ∀ (pre : List OpC) (op : OpC) (post : List OpC), ops = pre ++ op :: post → GoodC p (pre.foldl (applyC p) s) op) :
    let s' := joinPending n (ops.foldl (applyC p) s)
    applicable s' ∧ (∀ v, drainV s' v = true ↔ s'.status v = .active) ∧ PInv s' := by
  have key : Sync (ops.foldl (applyC p) s) ∧ PInv (ops.foldl (applyC p) s) :=
    Fold.getD_inv_guarded (f := stepC p) (I := fun s => Sync s ∧ PInv s) ops
      (fun s op s' h hg hs => syncC_step p s s' op h.1 h.2 hg hs) ⟨h, hp⟩ hg
  obtain ⟨k1, k2⟩ := join_pending n _ key.1 key.2
  exact ⟨sync_applicable k1, drain_iff k1, k2⟩

/-! non-vacuity: three validators in the set, accounts 3 and 4 without a record -/
def s3c : S := { V := fun v => decide (v < 3), claimed := fun v => decide (v < 3),
                 status := fun v => if v < 3 then .active else .inactive }

example : Sync s3c ∧ PInv s3c := by
  refine ⟨⟨fun v hv => by simp [s3c] at hv, fun v hv => by simp [s3c] at hv, fun v _ _ => ?_⟩, ⟨fun v hv => ?_, fun v hv => by simp [s3c] at hv⟩⟩
  · by_cases hv : v < 3 <;> simp [s3c, hv]
  · have hv : ¬ v < 3 := by simpa [s3c] using hv
    simp [s3c, hv]

example : (endBlockC 5 ([OpC.claim 3, .base (.msgPause 0), .claim 4].foldl (applyC pr) s3c)).1 = [(0, 0), (3, 1), (4, 1)] := by decide
example : endOk 5 (joinPending 5 ([OpC.claim 3, .base (.msgPause 0)].foldl (applyC pr) s3c)) = true := by decide
/-- a message about the pending validator fails until the block ends; afterwards it is an ordinary active validator -/
example : stepC pr ([OpC.claim 3].foldl (applyC pr) s3c) (.base (.msgPause 3)) = none := by decide
example : stepC pr s3c (.claim 1) = none := by decide

/-- **a recovery rotation of a validator's owner changes neither the application's view of who is active nor the
consensus set**: the invariant and the bookkeeping of unclaimed accounts carry over unchanged -/
theorem rotate_keeps_sync (s s' : S) (v : Nat) (h : Sync s) (hp : PInv s) (hr : rotateOwner s v = some s') :
    Sync s' ∧ PInv s' ∧ s'.status = s.status ∧ s'.V = s.V := by
  unfold rotateOwner at hr
  split at hr
  · cases hr      -- a record exists: only the jail record is written
    exact ⟨h.congr, ⟨hp.out, hp.pend⟩, rfl, rfl⟩
  · cases hr      -- no record: refused

/-- the order in which the operations of one block reach the model (as the correspondence harness records them,
`stakeEp.block` in harness/c05.go): in BeginBlock signatures (slashing) are handled before evidence, both before
staking; in EndBlock proposals are enacted (gov: unjail, rank reset, slash) before the staking module computes the
validator-set updates of the block. -/
theorem block_order_as_modelled :
    Sekai.App.inOrder Sekai.Gen.App.beginOrder ["slashingtypes.ModuleName", "evidencetypes.ModuleName", "stakingtypes.ModuleName"] = true ∧
    Sekai.App.inOrder Sekai.Gen.App.endOrder ["upgradetypes.ModuleName", "slashingtypes.ModuleName", "recoverytypes.ModuleName", "govtypes.ModuleName", "stakingtypes.ModuleName"] = true := by
  decide +kernel

/-! ### Key spaces of the stores this model keeps in separate maps (table `Gen.Keys`; why it matters: `Sekai/Model/Keys.lean`) -/

theorem staking_key_spaces_disjoint : Sekai.Keys.disjoint Sekai.Gen.Keys.stores "staking" = true :=
  Sekai.Keys.disjoint_of_pairwise_apart (by decide +kernel)

/-! ### two validator records behind one consensus key (recorded finding `C05/claim/consensus-key-of-another-validator`)

`ClaimValidator` looks at the operator address and the moniker of a claim, not at the consensus key it announces. A second
account may announce the key of an active validator: the engine's set - a set of KEYS - does not change when the second
record joins (power 1 for a key it holds already) and loses the key when the FIRST record leaves, while the second record
stays Active in the application's books. The model of this file indexes validators by their key and cannot say this; the
two-line model below can. -/

/-- the engine applies (key, power) updates to its set of keys -/
def applyKeyUpdates (set : List Nat) (upd : List (Nat × Nat)) : List Nat :=
  upd.foldl (fun s u => if u.2 = 0 then s.filter (· != u.1) else if s.contains u.1 then s else s ++ [u.1]) set

/-- keys of the validator records (key, active) the application counts as active -/
def activeKeysOf (vs : List (Nat × Bool)) : List Nat := (vs.filter (·.2)).map (·.1)

/-- A (key 7) is active and in the set; B joins announcing key 7: update (7, 1), the set stays [7]; A pauses: update (7, 0),
the set is empty - and B, key 7, is still Active -/
theorem duplicate_consensus_key_counterexample :
    applyKeyUpdates [7] [(7, 1)] = [7] ∧ applyKeyUpdates (applyKeyUpdates [7] [(7, 1)]) [(7, 0)] = [] ∧
    activeKeysOf [(7, false), (7, true)] = [7] := by decide

end Sekai.Props.C05
