import SekaiProofs.Lemmas.Gov
import SekaiProofs.Lemmas.F32
import SekaiProofs.Lemmas.Lookup
/-! # C08 — A proposal takes effect only if it passed, exactly once, and atomically

The tally: the float32 `ProcessResult` equals the exact rule (yes·2 > votes, veto·2 ≥ veto-capable voters, others·2 ≥ votes) for
every vote vector up to 2^24 votes/voters, and not beyond (they differ on a vector with 2^24 + 3 votes). The lifecycle: over ALL
histories of submit / vote / end-of-block, by induction over steps with the invariant `Inv`. Then proposals voted by the owners of
a spending pool or a collective. Last, in `Sekai.F32`, the two float32 tests of the tally one at a time. -/
namespace Sekai.Props.C08
open Sekai.Gov

def tallyOfF32 : Sekai.F32.Res → Tally
  | .passed => .passed | .rejected => .rejected | .rejectedWithVeto => .rejectedWithVeto | .unknown => .unknown

/-- the tally function the Go code uses (float32) -/
def tallyF32 (yes no abstain veto actorsWithVeto total : Nat) : Tally :=
  tallyOfF32 (Sekai.F32.processResult yes no abstain veto actorsWithVeto total)

/-- the rule of the property in exact arithmetic -/
def tallyExact (yes no abstain veto actorsWithVeto total : Nat) : Tally :=
  tallyOfF32 (Sekai.F32.exactRule yes no abstain veto actorsWithVeto total)

/-- **float32 tally = exact rule for every vote vector with at most 2^24 votes and voters**. `hy` and `ho` say that the vector is
one a tally produces (no count above the total); they stand in the statement, the proof uses neither: the float32 tests are exact
for every numerator (`F32.pct_cmp`). -/
theorem tally_exact (yes no abstain veto actorsWithVeto total : Nat)
    (hT : total ≤ 2 ^ 24) (hA : actorsWithVeto ≤ 2 ^ 24) (hy : yes ≤ total)
    (ho : no + abstain + veto ≤ total) :
    tallyF32 yes no abstain veto actorsWithVeto total = tallyExact yes no abstain veto actorsWithVeto total :=
  congrArg tallyOfF32 (Sekai.F32.processResult_exact yes no abstain veto actorsWithVeto total hT hA)

/-- the bound cannot be dropped: with 16 777 219 = 2^24 + 3 votes the float32 tally leaves the exact rule -/
theorem tally_inexact_beyond :
    tallyF32 8388610 8388609 0 0 0 16777219 ≠ tallyExact 8388610 8388609 0 0 0 16777219 := by decide +kernel

/-- passed means: more than half of the votes cast are yes and veto votes stay below half of the veto-capable voters -/
theorem exact_passed_iff (yes no abstain veto actorsWithVeto total : Nat) :
    tallyExact yes no abstain veto actorsWithVeto total = .passed ↔
      (actorsWithVeto = 0 ∨ 2 * veto < actorsWithVeto) ∧ total ≠ 0 ∧ 2 * yes > total := by
  have hv : (actorsWithVeto = 0 ∨ 2 * veto < actorsWithVeto) ↔ ¬(actorsWithVeto ≠ 0 ∧ 2 * veto ≥ actorsWithVeto) := by
    rw [Decidable.not_and_iff_not_or_not, Decidable.not_not, Nat.not_le]
  rw [hv]
  unfold tallyExact Sekai.F32.exactRule
  by_cases h1 : actorsWithVeto ≠ 0 ∧ 2 * veto ≥ actorsWithVeto
  · rw [if_pos h1]
    exact ⟨nofun, fun h => absurd h1 h.1⟩
  · rw [if_neg h1]
    by_cases h2 : total ≠ 0 ∧ 2 * yes > total
    · rw [if_pos h2]
      exact ⟨fun _ => ⟨h1, h2⟩, fun _ => rfl⟩
    · rw [if_neg h2]
      refine ⟨fun h => ?_, fun h => absurd h.2 h2⟩
      split at h <;> cases h

example : tallyF32 3 1 0 0 5 4 = .passed ∧ tallyF32 2 2 0 0 5 4 = .rejected ∧ tallyF32 3 0 0 3 5 6 = .rejectedWithVeto := by
  decide +kernel

/-- the lifecycle invariant: the queue of open votings, the log of applications and the ghost log of tallies agree with the
results stored in the proposals -/
structure Inv (s : St) : Prop where
  ids : IdsNodup s
  /-- the ids in use lie below the counter from which `submit` takes the next one -/
  fresh : ∀ i ∈ s.proposals.map (·.id), i < s.nextId
  activeNodup : s.active.Nodup
  /-- what makes tallying an entry of the active queue safe, and rules out the "proposal was expected to exist" panic there -/
  activePending : ∀ id ∈ s.active, ∃ p, getP s id = some p ∧ p.result = .pending
  logPassed : ∀ e ∈ s.log, ∃ p, getP s e.pid = some p ∧ p.result = .passed ∧ p.content = e.content ∧
      p.enactEnd ≤ e.time ∧ p.minEnactH ≤ e.height
  logNodup : (s.log.map (·.pid)).Nodup
  /-- the last conjunct, `tl.height ≤ p.minEnactH` (the enactment height is set at the tally, from the tally's height), is what
  `applied_after_delay` rests on -/
  enactedTallied : ∀ p ∈ s.proposals, p.result = .enactment ∨ p.result = .passed →
      ∃ tl ∈ s.tlog, tl.pid = p.id ∧ tl.quorumOk = true ∧ tl.tally = .passed ∧
        p.votingEnd ≤ tl.time ∧ p.minVoteH ≤ tl.height ∧ p.minEnactH ≥ tl.height

theorem inv_init : Inv ({} : St) where
  ids := List.nodup_nil
  fresh _ h := nomatch h
  activeNodup := List.nodup_nil
  activePending _ h := nomatch h
  logPassed _ h := nomatch h
  logNodup := List.nodup_nil
  enactedTallied _ h := nomatch h

theorem Inv.frame {s : St} (hI : Inv s) {votes : List Vote} {enact : List Nat} : Inv { s with votes := votes, enact := enact } :=
  { hI with }

theorem Inv.lt_nextId {s : St} (hI : Inv s) {id : Nat} {p : Proposal} (hp : getP s id = some p) : id < s.nextId := by
  obtain ⟨hmem, rfl⟩ := getP_mem hp
  exact hI.fresh _ (List.mem_map_of_mem hmem)

theorem Inv.log_ne {s : St} (hI : Inv s) {id : Nat} {p : Proposal} (hp : getP s id = some p) (hr : p.result ≠ .passed) :
    ∀ e ∈ s.log, e.pid ≠ id := by
  intro e he heq
  obtain ⟨q, hq, hqr, _⟩ := hI.logPassed e he
  rw [heq, hp] at hq
  cases hq
  exact hr hqr

/-- a finalised result stays, except that `enactment` becomes `passed` when the content is applied -/
def Stable (s s' : St) : Prop :=
  ∀ id p, getP s id = some p → p.result ≠ .pending →
    ∃ p', getP s' id = some p' ∧ (p'.result = p.result ∨ (p.result = .enactment ∧ p'.result = .passed))

theorem stable_refl (s : St) : Stable s s := fun _ p hp _ => ⟨p, hp, Or.inl rfl⟩

theorem stable_trans {a b c : St} (h1 : Stable a b) (h2 : Stable b c) : Stable a c := by
  intro id p hp hne
  obtain ⟨p1, hp1, hr1⟩ := h1 id p hp hne
  have hne1 : p1.result ≠ .pending := by
    rcases hr1 with hr1 | ⟨_, hr1⟩
    · rw [hr1]; exact hne
    · rw [hr1]; intro h; cases h
  obtain ⟨p2, hp2, hr2⟩ := h2 id p1 hp1 hne1
  refine ⟨p2, hp2, ?_⟩
  rcases hr1 with hr1 | ⟨hra, hrb⟩
  · rcases hr2 with hr2 | ⟨hr2a, hr2b⟩
    · exact Or.inl (hr2.trans hr1)
    · exact Or.inr ⟨hr1 ▸ hr2a, hr2b⟩
  · rcases hr2 with hr2 | ⟨hr2a, _⟩
    · exact Or.inr ⟨hra, hr2.trans hrb⟩
    · rw [hrb] at hr2a; cases hr2a

theorem stable_of_proposals_eq {s s' : St} (h : s'.proposals = s.proposals) : Stable s s' :=
  fun id p hp _ => ⟨p, (getP_congr h id).trans hp, Or.inl rfl⟩

theorem stable_setP {s s' : St} {p p' : Proposal} (hs' : s'.proposals = (setP s p').proposals) (hp : getP s p'.id = some p)
    (hr : p.result = .pending ∨ (p.result = .enactment ∧ p'.result = .passed)) : Stable s s' := by
  intro j q hq hne
  by_cases hj : j = p'.id
  · subst hj
    rw [hp] at hq
    cases hq
    exact ⟨p', getP_setP_same hs' hp, hr.elim (fun h => absurd h hne) Or.inr⟩
  · exact ⟨q, (getP_setP_other hs' hj).trans hq, Or.inl rfl⟩

/-- `submit` with the new proposal left a variable: only its id and its pending result matter -/
theorem inv_append {s : St} (hI : Inv s) {p : Proposal} (hid : p.id = s.nextId) (hr : p.result = .pending) :
    let s' := { s with proposals := s.proposals ++ [p], active := s.active ++ [p.id], nextId := s.nextId + 1 }
    Inv s' ∧ Stable s s' := by
  intro s'
  have hold : ∀ {j q}, getP s j = some q → getP s' j = some q := getP_append_of_some rfl
  have hnone : getP s p.id = none := by
    cases hq : getP s p.id with
    | none => rfl
    | some q => exact absurd (hI.lt_nextId hq) (by rw [hid]; exact Nat.lt_irrefl _)
  have hids : s'.proposals.map (·.id) = s.proposals.map (·.id) ++ [p.id] := List.map_append
  refine ⟨{ ids := ?ids, fresh := ?fresh, activeNodup := ?activeNodup, activePending := ?activePending, logPassed := ?logPassed,
            logNodup := hI.logNodup, enactedTallied := ?enactedTallied }, fun j q hq _ => ⟨q, hold hq, Or.inl rfl⟩⟩
  case ids =>
    show (s'.proposals.map (·.id)).Nodup
    rw [hids]
    exact nodup_append_singleton hI.ids fun h => Nat.lt_irrefl _ (hid ▸ hI.fresh _ h)
  case fresh =>
    intro i hi
    rw [hids] at hi
    rcases List.mem_append.mp hi with hi | hi
    · exact Nat.lt_succ_of_lt (hI.fresh i hi)
    · rw [List.mem_singleton.mp hi, hid]; exact Nat.lt_succ_self _
  case activeNodup =>
    refine nodup_append_singleton hI.activeNodup fun h => ?_
    obtain ⟨q, hq, _⟩ := hI.activePending _ h
    exact Nat.lt_irrefl _ (hid ▸ hI.lt_nextId hq)
  case activePending =>
    intro id hid'
    rcases List.mem_append.mp hid' with h | h
    · obtain ⟨q, hq, hqr⟩ := hI.activePending id h
      exact ⟨q, hold hq, hqr⟩
    · rw [List.mem_singleton.mp h]
      exact ⟨p, getP_append_new rfl hnone, hr⟩
  case logPassed =>
    intro e he
    obtain ⟨q, hq, hqr⟩ := hI.logPassed e he
    exact ⟨q, hold hq, hqr⟩
  case enactedTallied =>
    intro q hq hqr
    rcases List.mem_append.mp hq with h | h
    · exact hI.enactedTallied q h hqr
    · rw [List.mem_singleton.mp h, hr] at hqr
      rcases hqr with h | h <;> cases h

theorem inv_vote {s s' : St} (hI : Inv s) {aa : Bool} {al : Nat → Bool} {pid v o t : Nat}
    (h : vote s aa al pid v o t = some s') : Inv s' ∧ Stable s s' := by
  obtain ⟨_, _, _, _, _, rfl⟩ := vote_some h
  exact ⟨hI.frame, stable_of_proposals_eq rfl⟩

/-- the applying branch of `processEnactment`, with the outcome `ok` and the new enactment queue left variables -/
theorem inv_apply {s : St} (hI : Inv s) {p : Proposal} (hp : getP s p.id = some p) (hR : p.result = .enactment)
    {t h : Nat} (hE : p.enactEnd ≤ t) (hH : p.minEnactH ≤ h) {ok : Bool} {enact : List Nat} :
    let p' : Proposal := { p with result := .passed, exec := some ok }
    let s' : St := { setP s p' with log := s.log ++ [⟨p.id, p.content, t, h, ok⟩], enact := enact }
    Inv s' ∧ Stable s s' := by
  intro p' s'
  have hs' : s'.proposals = (setP s p').proposals := rfl
  have hlog := hI.log_ne hp (by rw [hR]; intro h; cases h)
  refine ⟨{ ids := ?ids, fresh := ?fresh, activeNodup := hI.activeNodup, activePending := ?activePending,
            logPassed := ?logPassed, logNodup := ?logNodup, enactedTallied := ?enactedTallied },
    stable_setP hs' hp (Or.inr ⟨hR, rfl⟩)⟩
  case ids => exact hI.ids.setP hs'
  case fresh => exact fun i hi => hI.fresh i (setP_ids hs' ▸ hi)
  case activePending =>
    intro j hj
    obtain ⟨q, hq, hqr⟩ := hI.activePending j hj
    have hne : j ≠ p'.id := by
      intro e; rw [e, hp] at hq; cases hq; rw [hR] at hqr; cases hqr
    exact ⟨q, (getP_setP_other hs' hne).trans hq, hqr⟩
  case logPassed =>
    intro e he
    rcases List.mem_append.mp he with he | he
    · obtain ⟨q, hq, hqr⟩ := hI.logPassed e he
      exact ⟨q, (getP_setP_other hs' (hlog e he)).trans hq, hqr⟩
    · rw [List.mem_singleton.mp he]
      exact ⟨p', getP_setP_same hs' hp, rfl, rfl, hE, hH⟩
  case logNodup =>
    show (List.map (·.pid) (s.log ++ [_])).Nodup
    rw [List.map_append]
    refine nodup_append_singleton hI.logNodup fun h => ?_
    obtain ⟨e, he, heq⟩ := List.mem_map.mp h
    exact hlog e he heq
  case enactedTallied =>
    intro q hq hqr
    rcases mem_setP hs' hq with rfl | hq
    · exact hI.enactedTallied p (getP_mem hp).1 (Or.inl hR)
    · exact hI.enactedTallied q hq hqr

/-- the tallying branch of `processProposal`, with the quorum bit, the tally, the recorded counts and the new enactment queue left
variables -/
theorem inv_tally {s : St} (hI : Inv s) {p : Proposal} (hp : getP s p.id = some p) (hpend : p.result = .pending)
    {t h : Nat} (hE : p.votingEnd ≤ t) (hH : p.minVoteH ≤ h) {q : Bool} {tl : Tally} {meb : Nat} {enact : List Nat}
    {y n a v vs tot : Nat} :
    let p' : Proposal := { p with result := resOf q tl, minEnactH := h + meb }
    let s' : St := { setP s p' with active := s.active.filter (· != p.id), enact := enact,
                                    tlog := s.tlog ++ [⟨p.id, y, n, a, v, vs, tot, q, tl, t, h⟩] }
    Inv s' ∧ Stable s s' := by
  intro p' s'
  have hs' : s'.proposals = (setP s p').proposals := rfl
  have hlog := hI.log_ne hp (by rw [hpend]; intro h; cases h)
  refine ⟨{ ids := ?ids, fresh := ?fresh, activeNodup := hI.activeNodup.sublist List.filter_sublist,
            activePending := ?activePending, logPassed := ?logPassed, logNodup := hI.logNodup, enactedTallied := ?enactedTallied },
    stable_setP hs' hp (Or.inl hpend)⟩
  case ids => exact hI.ids.setP hs'
  case fresh => exact fun i hi => hI.fresh i (setP_ids hs' ▸ hi)
  case activePending =>
    intro j hj
    obtain ⟨hj, hne⟩ := List.mem_filter.mp hj
    obtain ⟨r, hr, hrr⟩ := hI.activePending j hj
    exact ⟨r, (getP_setP_other hs' (by simpa using hne)).trans hr, hrr⟩
  case logPassed =>
    intro e he
    obtain ⟨r, hr, hrr⟩ := hI.logPassed e he
    exact ⟨r, (getP_setP_other hs' (hlog e he)).trans hr, hrr⟩
  case enactedTallied =>
    intro r hr hrr
    rcases mem_setP hs' hr with rfl | hr
    · -- the freshly tallied proposal: `enactment` only with quorum and a passed tally, `passed` never
      obtain ⟨hq, htl⟩ := resOf_enactment.mp (hrr.resolve_right (resOf_ne_passed q tl))
      exact ⟨_, List.mem_append_right _ (List.mem_singleton.mpr rfl), rfl, hq, htl, hE, hH, Nat.le_add_right h meb⟩
    · obtain ⟨tl', htl', hrest⟩ := hI.enactedTallied r hr hrr
      exact ⟨tl', List.mem_append_left _ htl', hrest⟩

theorem inv_processEnactment {applyOk : Nat → Bool} {t h : Nat} {s s' : St} {id : Nat} (hI : Inv s)
    (hs : processEnactment applyOk t h s id = some s') : Inv s' ∧ Stable s s' := by
  obtain ⟨p, hp, rfl | rfl | ⟨hR, hE, hH, rfl⟩⟩ := processEnactment_some hs
  · exact ⟨hI, stable_refl _⟩
  · exact ⟨hI.frame, stable_of_proposals_eq rfl⟩
  · obtain ⟨_, rfl⟩ := getP_mem hp
    exact inv_apply hI hp hR hE hH

theorem inv_processProposal {voters : Nat → List Nat} {tally : Nat → Nat → Nat → Nat → Nat → Nat → Tally}
    {quorum : Sekai.Dec.D} {meb t h : Nat} {s s' : St} {id : Nat} (hI : Inv s) (hmem : id ∈ s.active)
    (hs : processProposal voters tally quorum meb t h s id = some s') : Inv s' ∧ Stable s s' := by
  obtain ⟨p, hp, rfl | ⟨q, hE, hH, _, rfl⟩⟩ := processProposal_some rfl hs
  · exact ⟨hI, stable_refl _⟩
  · obtain ⟨p0, hp0, hpend⟩ := hI.activePending id hmem
    rw [hp] at hp0; cases hp0
    obtain ⟨_, rfl⟩ := getP_mem hp
    exact inv_tally hI hp hpend hE hH

theorem inv_endBlock {voters : Nat → List Nat} {tally : Nat → Nat → Nat → Nat → Nat → Nat → Tally}
    {applyOk : Nat → Bool} {quorum : Sekai.Dec.D} {meb t h : Nat} {s s' : St} (hI : Inv s)
    (hs : endBlock voters tally applyOk quorum meb t h s = some s') : Inv s' ∧ Stable s s' := by
  obtain ⟨s1, h1, hs⟩ := endBlock_some hs
  -- the enactment loop: every entry keeps `Inv`, whatever the queue holds
  obtain ⟨hI1, hst1⟩ := foldOpt_inv _ (fun b => Inv b ∧ Stable s b)
    (fun b a b' hb hf => have h := inv_processEnactment hb.1 hf; ⟨h.1, stable_trans hb.2 h.2⟩)
    _ s s1 ⟨hI, stable_refl s⟩ h1
  -- the tally loop: an entry must still be in the active queue when its turn comes; the walk visits each id once
  obtain ⟨hq1, hq2⟩ := queueOrder_spec s1 s1.active (·.votingEnd) hI1.activeNodup
  obtain ⟨_, _, hI', hst2⟩ := foldOpt_induct _ (fun l b => l.Nodup ∧ (∀ id ∈ l, id ∈ b.active) ∧ Inv b ∧ Stable s b)
    (fun a as b b' ⟨hnd, hsub, hIb, hst⟩ hf => by
      obtain ⟨hIb', hst'⟩ := inv_processProposal hIb (hsub a List.mem_cons_self) hf
      obtain ⟨hna, hnas⟩ := List.nodup_cons.mp hnd
      exact ⟨hnas, fun j hj => processProposal_active hf (fun e => hna (e ▸ hj)) (hsub j (List.mem_cons_of_mem _ hj)),
        hIb', stable_trans hst hst'⟩)
    _ s1 s' ⟨hq1, hq2, hI1, hst1⟩ hs
  exact ⟨hI', hst2⟩

inductive Step (tally : Nat → Nat → Nat → Nat → Nat → Nat → Tally) : St → St → Prop
  | submit (s : St) (vp c t h e en mb meb : Nat) : Step tally s (submit s vp c t h e en mb meb)
  | vote {s s' : St} (aa : Bool) (al : Nat → Bool) (pid v o t : Nat) : vote s aa al pid v o t = some s' → Step tally s s'
  | endBlock {s s' : St} (voters : Nat → List Nat) (applyOk : Nat → Bool) (quorum : Sekai.Dec.D) (meb t h : Nat) :
      endBlock voters tally applyOk quorum meb t h s = some s' → Step tally s s'

inductive Reach (tally : Nat → Nat → Nat → Nat → Nat → Nat → Tally) : St → Prop
  | init : Reach tally {}
  | step {s s' : St} : Reach tally s → Step tally s s' → Reach tally s'

theorem inv_step {tally} {s s' : St} (hI : Inv s) (h : Step tally s s') : Inv s' ∧ Stable s s' := by
  cases h with
  | submit vp c t h e en mb meb => exact inv_append hI rfl rfl
  | vote aa al pid v o t hv => exact inv_vote hI hv
  | endBlock voters applyOk quorum meb t h he => exact inv_endBlock hI he

theorem inv_reach {tally} {s : St} (h : Reach tally s) : Inv s := by
  induction h with
  | init => exact inv_init
  | step _ hstep ih => exact (inv_step ih hstep).1

/-- **a proposal's content is applied at most once**, over every history -/
theorem applied_at_most_once {tally} {s : St} (h : Reach tally s) : (s.log.map (·.pid)).Nodup :=
  (inv_reach h).logNodup

/-- **it is applied only if, at a tally performed when the voting window had closed (end time and minimum block
height both reached), a quorum of the eligible voters had voted and the tally said passed** -/
theorem applied_only_if_passed {tally} {s : St} (h : Reach tally s) (e : Applied) (he : e ∈ s.log) :
    ∃ p, getP s e.pid = some p ∧ p.content = e.content ∧
      ∃ tl ∈ s.tlog, tl.pid = e.pid ∧ tl.quorumOk = true ∧ tl.tally = .passed ∧
        p.votingEnd ≤ tl.time ∧ p.minVoteH ≤ tl.height := by
  obtain ⟨p, hp, hpassed, hcontent, _, _⟩ := (inv_reach h).logPassed e he
  obtain ⟨hmem, hpid⟩ := getP_mem hp
  obtain ⟨tl, htl, htlpid, hquorum, htally, hvend, hvheight, _⟩ := (inv_reach h).enactedTallied p hmem (Or.inr hpassed)
  exact ⟨p, hp, hcontent, tl, htl, htlpid.trans hpid, hquorum, htally, hvend, hvheight⟩

/-- **and only after the enactment delay** (end time and minimum enactment height, the latter set at tally time) -/
theorem applied_after_delay {tally} {s : St} (h : Reach tally s) (e : Applied) (he : e ∈ s.log) :
    ∃ p, getP s e.pid = some p ∧ p.enactEnd ≤ e.time ∧ p.minEnactH ≤ e.height ∧
      ∃ tl ∈ s.tlog, tl.pid = e.pid ∧ tl.height ≤ e.height := by
  obtain ⟨p, hp, hpassed, _, hend, hheight⟩ := (inv_reach h).logPassed e he
  obtain ⟨hmem, hpid⟩ := getP_mem hp
  obtain ⟨tl, htl, htlpid, _, _, _, _, hdelay⟩ := (inv_reach h).enactedTallied p hmem (Or.inr hpassed)
  exact ⟨p, hp, hend, hheight, tl, htl, htlpid.trans hpid, Nat.le_trans hdelay hheight⟩

/-- **a vote submitted after the voting end is rejected** -/
theorem late_vote_rejected (s : St) (aa : Bool) (al : Nat → Bool) (pid v o t : Nat) (p : Proposal)
    (hp : getP s pid = some p) (hlate : p.votingEnd < t) : vote s aa al pid v o t = none := by
  cases hv : vote s aa al pid v o t with
  | none => rfl
  | some s' =>
    obtain ⟨_, q, hq, ht, _⟩ := vote_some hv
    cases hp.symm.trans hq
    exact absurd hlate (Nat.not_lt.mpr ht)

/-- **a vote by an account that lacks the vote permission when it votes is rejected** -/
theorem vote_requires_permission_now (s s' : St) (aa : Bool) (al : Nat → Bool) (pid v o t : Nat)
    (h : vote s aa al pid v o t = some s') :
    aa = true ∧ ∃ p, getP s pid = some p ∧ al p.votePerm = true ∧ t ≤ p.votingEnd := by
  obtain ⟨ha, p, hp, ht, hal, _⟩ := vote_some h
  exact ⟨ha, p, hp, hal, ht⟩

/-- **a repeated vote replaces the earlier one**: afterwards exactly one vote of this voter on this proposal exists, the new one -/
theorem revote_replaces (s s' : St) (aa : Bool) (al : Nat → Bool) (pid v o t : Nat)
    (h : vote s aa al pid v o t = some s') :
    s'.votes.filter (fun x => x.pid == pid && x.voter == v) = [⟨pid, v, o⟩] ∧
    ∀ x ∈ s.votes, ¬ (x.pid = pid ∧ x.voter = v) → x ∈ s'.votes := by
  obtain ⟨_, _, _, _, _, rfl⟩ := vote_some h
  constructor
  · show List.filter _ (List.filter _ s.votes ++ [_]) = _
    rw [List.filter_append, List.filter_filter, List.filter_eq_nil_iff.mpr (fun x _ => by simp), List.nil_append]
    exact List.filter_cons_of_pos (by simp)
  · intro x hx hne
    refine List.mem_append_left _ (List.mem_filter.mpr ⟨hx, ?_⟩)
    simpa using Decidable.not_and_iff_not_or_not.mp hne

/-- **a finalised result never changes** (except that `enactment` becomes `passed` when the content is applied): in every step from
a reachable state, and so (`stable_trans`) over every later history -/
theorem final_result_stable {tally} {s s' : St} (hr : Reach tally s) (hs : Step tally s s')
    (id : Nat) (p : Proposal) (hp : getP s id = some p) (hne : p.result ≠ .pending) :
    ∃ p', getP s' id = some p' ∧ (p'.result = p.result ∨ (p.result = .enactment ∧ p'.result = .passed)) :=
  (inv_step (inv_reach hr) hs).2 id p hp hne

/-- non-vacuity: a concrete history — submit, three yes votes of five voters, voting end, enactment — applies the content exactly once -/
example :
    let voters : Nat → List Nat := fun _ => [0, 1, 2, 3, 4]
    let s0 := submit {} 7 42 100 1 600 300 2 1
    let s1 := (vote s0 true (fun _ => true) 1 0 1 150).getD s0
    let s2 := (vote s1 true (fun _ => true) 1 1 1 160).getD s1
    let s3 := (vote s2 true (fun _ => true) 1 2 1 170).getD s2
    let s4 := (endBlock voters tallyF32 (fun _ => true) 333333333333333333 1 700 5 s3).getD s3
    let s5 := (endBlock voters tallyF32 (fun _ => true) 333333333333333333 1 1000 7 s4).getD s4
    let s6 := (endBlock voters tallyF32 (fun _ => true) 333333333333333333 1 1100 8 s5).getD s5
    (s4.proposals.map (·.result)) = [.enactment] ∧ s5.log.map (·.pid) = [1] ∧ s6.log.map (·.pid) = [1] ∧
    (s6.proposals.map (·.result)) = [.passed] := by
  decide +kernel

/-- `distinct` leaves no duplicate: with `Gov.mem_distinct`, the electorate counts each owner exactly once -/
theorem nodup_distinct (l : List Nat) : (distinct l).Nodup := by
  induction l with
  | nil => exact List.nodup_nil
  | cons a t ih =>
    by_cases h : a ∈ t
    · rw [distinct_cons_of_mem h]; exact ih
    · rw [distinct_cons_of_not_mem h]
      exact List.nodup_cons.mpr ⟨fun hm => h ((mem_distinct t a).mp hm), ih⟩

/-- **each owner counts once**: naming an owner a second time - by account next to a role it is a member of, or in two
roles - leaves the electorate as it is -/
theorem owner_named_twice_counts_once (a : Nat) (accounts roleMembers : List Nat) (h : a ∈ accounts ++ roleMembers) :
    localElectorate (a :: accounts) roleMembers = localElectorate accounts roleMembers := by
  unfold localElectorate
  rw [List.cons_append, distinct_cons_of_mem h]

/-- **a proposal with a local electorate reaches enactment only with the STORED quorum of the DISTINCT owners** (and a
passing tally of the votes cast): whatever quorum or owner list the proposal's own content carries plays no part -/
theorem local_pass_needs_stored_quorum (tally : Nat → Nat → Nat → Nat → Nat → Nat → Tally) (q : Dec.D)
    (accounts roleMembers : List Nat) (y n a v o : Nat)
    (h : localResult tally q accounts roleMembers y n a v o = some .enactment) :
    isQuorum q (y + n + a + v + o) (localElectorate accounts roleMembers) = some true ∧
    tally y n a v 0 (y + n + a + v + o) = .passed := by
  rw [localResult_eq] at h
  obtain ⟨b, hb, hr⟩ := Option.map_eq_some_iff.mp h
  obtain ⟨rfl, ht⟩ := resOf_enactment.mp hr
  exact ⟨hb, ht⟩

/-- the quorum in numbers: votes·10¹⁸ ≥ distinct owners · quorum·10¹⁸, and never more votes than owners -/
theorem local_quorum_exact (q : Dec.D) (votes owners : Nat) (h : isQuorum q votes owners = some true) :
    votes ≤ owners ∧ q ≤ Dec.one ∧ Dec.mul (Dec.ofInt owners) q ≤ Dec.ofInt votes := by
  obtain ⟨h1, h2, h3⟩ := (isQuorum_eq_some q votes owners true).mp h
  exact ⟨h1, h2, of_decide_eq_true h3⟩

/-- non-vacuity, on the electorates of the two shapes the strands of the harness aim at - three owners named by account; an owner
named by account AND in a role of five, counted once - and on the empty electorate, counted as 1 -/
example : localElectorate [0, 1, 2] [] = 3 ∧ localElectorate [3] [0, 1, 2, 3, 4] = 5 ∧ localElectorate [] [] = 1 := by decide

end Sekai.Props.C08

/-! The two float32 tests one at a time. End results of their own: nothing above rests on them (`tally_exact` goes through
`F32.processResult_exact`). -/
namespace Sekai.F32

/-- **for `0 < total ≤ 2^24` votes the float32 yes test `> 50` is the strict majority in exact arithmetic**. `hy` says that the
counts are those of a tally (no more yes votes than votes); it stands in the statement, the proof does not use it: `pct_cmp` bounds
the denominator only. -/
theorem pass_exact (yes total : ℕ) (ht : 0 < total) (hT : total ≤ 2 ^ 24) (hy : yes ≤ total) :
    passF yes total = decide (2 * yes > total) :=
  decide_eq_decide.mpr (pct_cmp yes total ht hT).1

/-- **the float32 `>= 50` test (veto, others) is the exact comparison for ANY numerator and every denominator `0 < d ≤ 2^24`** -/
theorem ge_exact_any (n d : ℕ) (hd : 0 < d) (hD : d ≤ 2 ^ 24) :
    geF n d = decide (2 * n ≥ d) :=
  decide_eq_decide.mpr (pct_cmp n d hd hD).2

/-- 8 388 610 yes out of 16 777 219 is a strict majority, float32 says it is not. That no smaller total diverges is not proved
here: it is the outcome of running the Go code over the boundary values (`spikes/go-probe/f32_boundary.go.txt`, beside `lean/`). -/
theorem pass_first_divergence :
    passF 8388610 16777219 = false ∧ 2 * 8388610 > 16777219 := by decide +kernel

/-- 8 388 608 out of 16 777 217 is strictly less than half, the float32 `>= 50` test accepts it. -/
theorem ge_divergence :
    geF 8388608 16777217 = true ∧ 2 * 8388608 < 16777217 := by decide +kernel

end Sekai.F32
