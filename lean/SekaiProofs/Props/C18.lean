import SekaiProofs.Lemmas.Dec
import SekaiProofs.Lemmas.Spend
import SekaiProofs.Lemmas.SpendInv
import SekaiProofs.Lemmas.Ubi
import SekaiProofs.Lemmas.Collect
import Sekai.Gen.Keys
import SekaiProofs.Lemmas.Keys
/-! # C18 — Spending pools, UBI and collectives pay only the entitled and only what is owed

About the executable models `Sekai.Spend`, `Sekai.Ubi`, `Sekai.Collect` (tied to the Go code by the differential run of
`harness/c18*.go`).

Findings are cited by their key in `known_findings.json`.

Amounts are integers, decimals are scaled by `P = 10^18`; an inequality `2·P²·paid ≤ 2·rate·seconds·weight + P² + P` is the
integer form of `paid ≤ rate·seconds·weight + ½ + ½·10⁻¹⁸` (the two roundings of
`rate.Mul(duration).Mul(weight).RoundInt()`). -/
namespace Sekai.Props.C18
open Sekai Sekai.Spend Sekai.Dec

/-! ## (a) a claim pays at most rate × clipped seconds × weight (+ the rounding slack of the code) -/

/-- the entitled seconds of the property: inside `[max(start, last claim[, last rate calculation]), min(now, end)]`,
at most the pool's claim expiry -/
def entitledSeconds (p : Pool) (last now : Nat) : Int :=
  let start := max (toI64 p.claimStart) (toI64 last)
  let start := if p.dynamicRate then max start (toI64 p.lastDyn) else start
  let stop : Int := if p.claimEnd ≠ 0 ∧ (now : Int) > toI64 p.claimEnd then toI64 p.claimEnd else now
  min (stop - start) (toI64 p.claimExpiry)

/-- `ClaimSpendingPool` clips with `if`s what `entitledSeconds` says with `max` and `min`; it pays exactly while the
window from `max(start, last claim)` to `min(now, end)` is open. -/
theorem claimDuration_eq_some {p : Pool} {last now : Nat} {dur : Int} :
    claimDuration p last now = some dur ↔
      dur = entitledSeconds p last now ∧
      max (toI64 p.claimStart) (toI64 last) < (now : Int) ∧
      (p.claimEnd ≠ 0 → max (toI64 p.claimStart) (toI64 last) < toI64 p.claimEnd) := by
  have hdyn : ∀ c : Int, (if (p.dynamicRate && decide (c < toI64 p.lastDyn)) = true then toI64 p.lastDyn else c) =
      if p.dynamicRate = true then max c (toI64 p.lastDyn) else c := by
    intro c; cases p.dynamicRate <;> simp [ite_lt_eq_max]
  unfold claimDuration entitledSeconds
  simp only [ite_lt_eq_max, ite_gt_eq_min, hdyn]
  generalize max (toI64 p.claimStart) (toI64 last) = m
  generalize (if p.dynamicRate = true then max m (toI64 p.lastDyn) else m) = start
  generalize hs : (if p.claimEnd ≠ 0 ∧ (now : Int) > toI64 p.claimEnd then toI64 p.claimEnd else (now : Int)) = stop
  have hopen : m < stop ↔ m < (now : Int) ∧ (p.claimEnd ≠ 0 → m < toI64 p.claimEnd) := by
    subst hs; split <;> omega
  rw [← hopen]
  split
  · constructor                                     -- window closed: `none`, and `m < stop` is false
    · nofun
    · omega
  · constructor                                     -- window open: `some (min (stop − start) expiry)`
    · intro h; cases h; omega
    · intro h; rw [h.1]

theorem claimDuration_eq {p : Pool} {last now : Nat} {dur : Int} (h : claimDuration p last now = some dur) :
    dur = entitledSeconds p last now ∧
    max (toI64 p.claimStart) (toI64 last) < (now : Int) ∧
    (p.claimEnd ≠ 0 → max (toI64 p.claimStart) (toI64 last) < toI64 p.claimEnd) :=
  claimDuration_eq_some.mp h

/-- never more than the expiry, than the time since the last claim or since the start, never past the end; for EVERY pool
and time, whether or not a claim succeeds -/
theorem entitledSeconds_bounds (p : Pool) (last now : Nat) :
    entitledSeconds p last now ≤ toI64 p.claimExpiry ∧ entitledSeconds p last now ≤ (now : Int) - toI64 last ∧
    entitledSeconds p last now ≤ (now : Int) - toI64 p.claimStart ∧
    (p.claimEnd ≠ 0 → entitledSeconds p last now ≤ toI64 p.claimEnd - toI64 last ∧
      entitledSeconds p last now ≤ toI64 p.claimEnd - toI64 p.claimStart) := by
  unfold entitledSeconds
  simp only
  generalize hs : (if p.claimEnd ≠ 0 ∧ (now : Int) > toI64 p.claimEnd then toI64 p.claimEnd else (now : Int)) = stop
  have hstop : stop ≤ (now : Int) ∧ (p.claimEnd ≠ 0 → stop ≤ toI64 p.claimEnd) := by subst hs; split <;> omega
  generalize hst : (if p.dynamicRate = true then max (max (toI64 p.claimStart) (toI64 last)) (toI64 p.lastDyn)
    else max (toI64 p.claimStart) (toI64 last)) = start
  have hstart : toI64 p.claimStart ≤ start ∧ toI64 last ≤ start := by
    subst hst; split
    · exact ⟨Int.le_trans (Int.le_max_left _ _) (Int.le_max_left _ _), Int.le_trans (Int.le_max_right _ _) (Int.le_max_left _ _)⟩
    · exact ⟨Int.le_max_left _ _, Int.le_max_right _ _⟩
  have hle : ∀ {a b : Int}, stop ≤ a → b ≤ start → min (stop - start) (toI64 p.claimExpiry) ≤ a - b :=
    fun ha hb => Int.le_trans (Int.min_le_left _ _) (Int.sub_le_sub ha hb)
  exact ⟨Int.min_le_right _ _, hle hstop.1 hstart.2, hle hstop.1 hstart.1,
    fun hc => ⟨hle (hstop.2 hc) hstart.2, hle (hstop.2 hc) hstart.1⟩⟩

theorem entryAmount_ge (r dur w : Int) : 2 * (r * dur * w) - P * P - P ≤ 2 * P * P * entryAmount r dur w :=
  (entryAmount_near r dur w).1

/-- the entitlement of one denom, ×2·P²: every rate entry of that denom contributes rate·seconds·weight + slack -/
def entBound : List (Denom × Int) → Int → Int → Denom → Int
  | [], _, _, _ => 0
  | (d', r) :: rest, dur, w, d => (if d' = d then 2 * (r * dur * w) + P * P + P else 0) + entBound rest dur w d

theorem paid_le_entBound (rates : List (Denom × Int)) (dur w : Int) (d : Denom)
    (hnn : ∀ e ∈ rewardEntries rates dur w, 0 ≤ e.2) :
    2 * P * P * ((Amt.ofList (toNatCoins (rewardEntries rates dur w)) d : Nat) : Int) ≤ entBound rates dur w d := by
  induction rates with
  | nil => simp [rewardEntries, toNatCoins, Amt.ofList, sumFor, entBound]
  | cons e rest ih =>
    obtain ⟨d', r⟩ := e
    have h0 : 0 ≤ entryAmount r dur w := hnn (d', entryAmount r dur w) List.mem_cons_self
    have ih' := ih fun e he => hnn e (List.mem_cons_of_mem _ he)
    have hb := (entryAmount_near r dur w).2
    simp only [rewardEntries, toNatCoins, List.map_cons, Amt.ofList, sumFor, entBound] at ih' ⊢
    unfold P at *
    split <;> omega

/-- A successful claim pays the claimant, per denom, at most
`Σ rate·entitledSeconds·weight + slack` over the pool's rate entries of that denom; the seconds are the clipped
window of the property; nobody else's balance moves. For every pool configuration, state and time. -/
theorem claim_le_entitlement {s s' : State} {n : Nat} {a : Addr} {now : Nat} (ha : a ≠ SPEND)
    (h : claim s n a now = .ok s') :
    ∃ p ci, findPool s.pools n = some p ∧ findInfo s.infos n a = some ci ∧
      let secs := entitledSeconds p ci.last now
      let w := benWeight p s.actors a
      (∀ d, s'.bank a d = s.bank a d + paidOf p secs w d) ∧
      (∀ d, 2 * P * P * (paidOf p secs w d : Int) ≤ entBound p.rates secs w d) ∧
      secs ≤ toI64 p.claimExpiry ∧ secs ≤ (now : Int) - toI64 ci.last ∧ secs ≤ (now : Int) - toI64 p.claimStart ∧
      (p.claimEnd ≠ 0 → secs ≤ toI64 p.claimEnd - toI64 ci.last ∧ secs ≤ toI64 p.claimEnd - toI64 p.claimStart) ∧
      (∀ x, x ≠ a → x ≠ SPEND → s'.bank x = s.bank x) := by
  obtain ⟨p, ci, dur, hc⟩ := claim_ok h
  obtain ⟨rfl, _, _⟩ := claimDuration_eq hc.duration
  obtain rfl := hc.state
  obtain ⟨b1, b2, b3, b4⟩ := entitledSeconds_bounds p ci.last now
  exact ⟨p, ci, hc.pool, hc.info, fun d => move_to s.bank SPEND a _ (fun e => ha e.symm) d,
    fun d => paid_le_entBound p.rates _ _ d hc.nonneg, b1, b2, b3, b4, fun x hx hx2 => move_other s.bank SPEND a x _ hx2 hx⟩

/-! ## (b) no interval is paid twice -/

/-- Two consecutive successful claims of one account: the first sets the cursor to its own block time `t1` (what it pays is
`claim_le_entitlement`), the second pays for `entitledSeconds ≤ t2 − t1` seconds counted from the
cursor `t1` — whatever the pool terms are at either time (`entitledSeconds_bounds` holds for every pool, so the terms may
have been changed in between). -/
theorem claim_intervals_disjoint {s s1 s2 : State} {n : Nat} {a : Addr} {t1 t2 : Nat} (ha : a ≠ SPEND)
    (h1 : claim s n a t1 = .ok s1) (h2 : claim s1 n a t2 = .ok s2) :
    ∃ p1, findPool s1.pools n = some p1 ∧ toI64 t1 < (t2 : Int) ∧
      entitledSeconds p1 t1 t2 ≤ (t2 : Int) - toI64 t1 ∧
      ∀ d, s2.bank a d = s1.bank a d + paidOf p1 (entitledSeconds p1 t1 t2) (benWeight p1 s1.actors a) d := by
  obtain ⟨p1, ci, dur, hc⟩ := claim_ok h2
  -- the second claim finds the cursor the first one wrote
  obtain rfl : ci = { pool := n, acct := a, last := t1 } := Option.some.inj (hc.info.symm.trans (claim_sets_cursor h1))
  obtain ⟨rfl, hlt, _⟩ := claimDuration_eq (last := t1) hc.duration
  obtain rfl := hc.state
  exact ⟨p1, hc.pool, by omega, (entitledSeconds_bounds p1 t1 t2).2.1, move_to s1.bank SPEND a _ (fun e => ha e.symm)⟩

/-- the claims of one account against fixed pool terms: durations of the successful ones, cursor threaded as the code does -/
def claimRun (p : Pool) : Nat → List Nat → List Int × Nat
  | last, [] => ([], last)
  | last, t :: ts =>
    match claimDuration p last t with
    | some d => let r := claimRun p t ts; (d :: r.1, r.2)
    | none => claimRun p last ts

def sumInt : List Int → Int
  | [] => 0
  | x :: xs => x + sumInt xs

/-- over any sequence of claim times the paid seconds telescope: in total at most (last successful claim − first cursor) -/
theorem claimRun_seconds (p : Pool) (last : Nat) (ts : List Nat) (hl : last < I63) (ht : ∀ t ∈ ts, t < I63) :
    sumInt (claimRun p last ts).1 ≤ ((claimRun p last ts).2 : Int) - (last : Int) ∧ last ≤ (claimRun p last ts).2 := by
  induction ts generalizing last with
  | nil => simp [claimRun, sumInt]
  | cons t rest ih =>
    have ht' : ∀ t ∈ rest, t < I63 := fun x hx => ht x (List.mem_cons_of_mem _ hx)
    unfold claimRun
    split
    · rename_i d hd
      obtain ⟨rfl, hlt, _⟩ := claimDuration_eq hd
      have hb := (entitledSeconds_bounds p last t).2.1
      have := ih t (ht t List.mem_cons_self) ht'
      rw [toI64_of_lt hl] at hb hlt
      simp only [sumInt]
      omega
    · exact ih last hl ht'

theorem sum_entryAmount_le (r w : Int) (ds : List Int) :
    2 * P * P * sumInt (ds.map (fun d => entryAmount r d w)) ≤ 2 * (r * w * sumInt ds) + (ds.length : Int) * (P * P + P) := by
  induction ds with
  | nil => simp [sumInt]
  | cons d rest ih =>
    have he := (entryAmount_near r d w).2
    rw [Int.mul_right_comm r d w] at he
    simp only [List.map_cons, sumInt, List.length_cons, Int.natCast_add, Int.mul_add, Int.add_mul] at ih ⊢
    omega

/-- No double pay over a whole history. For one rate entry `r` and weight `w` with `r·w ≥ 0`:
the sum of what `n` successful claims pay is at most `r·w·(last claim time − first cursor) + n·slack`. -/
theorem claim_total_le (p : Pool) (r w : Int) (hrw : 0 ≤ r * w) (last : Nat) (ts : List Nat) (hl : last < I63) (ht : ∀ t ∈ ts, t < I63) :
    2 * P * P * sumInt ((claimRun p last ts).1.map (fun d => entryAmount r d w)) ≤
      2 * (r * w * (((claimRun p last ts).2 : Int) - last)) + ((claimRun p last ts).1.length : Int) * (P * P + P) := by
  have h1 := sum_entryAmount_le r w (claimRun p last ts).1
  have h2 := Int.mul_le_mul_of_nonneg_left (claimRun_seconds p last ts hl ht).1 hrw
  omega

/-! ## (c) never more than the pool's recorded balance; the record decreases by exactly what was paid -/

theorem claim_le_balance {s s' : State} {n : Nat} {a : Addr} {now : Nat} (ha : a ≠ SPEND)
    (h : claim s n a now = .ok s') :
    ∃ (p p' : Pool) (paid : Amt), findPool s.pools n = some p ∧ findPool s'.pools n = some p' ∧
      ∀ d, paid d ≤ p.bal d ∧ p'.bal d = p.bal d - paid d ∧ paid d ≤ s.bank SPEND d ∧
           s'.bank a d = s.bank a d + paid d ∧ s'.bank SPEND d = s.bank SPEND d - paid d := by
  obtain ⟨p, ci, dur, hc⟩ := claim_ok h
  obtain rfl := hc.state
  exact ⟨p, _, paidOf p dur (benWeight p s.actors a), hc.pool, findPool_setPool hc.pool rfl, fun d =>
    ⟨hc.le_record d, rfl, hc.le_module d, move_to s.bank SPEND a _ (fun e => ha e.symm) d,
      move_from s.bank SPEND a _ (fun e => ha e.symm) d⟩⟩

/-! ## (d) a claim succeeds only for a listed beneficiary that has registered; the owners' proposals pay only beneficiaries -/

/-- the beneficiary rule: listed by account, or holder of a listed role -/
def Listed (p : Pool) (actors : Addr → Option (List Nat)) (a : Addr) : Prop :=
  (∃ e ∈ p.benAccounts, e.1 = a) ∨ (∃ rs, actors a = some rs ∧ ∃ r ∈ rs, ∃ e ∈ p.benRoles, e.1 = r)

theorem benWeight_ne_zero_listed {p : Pool} {actors : Addr → Option (List Nat)} {a : Addr}
    (h : benWeight p actors a ≠ 0) : Listed p actors a := by
  revert h
  fun_cases benWeight p actors a <;> try (exact fun h => absurd rfl h)   -- the branches that return 0
  next e he =>                                                    -- listed by account
    exact fun _ => .inl ⟨e, List.mem_of_find?_eq_some he, by simpa using List.find?_some he⟩
  next rs hrs w hw =>                                             -- an actor, one of whose roles is listed
    intro _
    obtain ⟨r, hr, hrw⟩ := List.exists_of_findSome?_eq_some hw
    obtain ⟨e, hf, _⟩ := Option.map_eq_some_iff.1 hrw
    exact .inr ⟨rs, hrs, r, hr, e, List.mem_reverse.1 (List.mem_of_find?_eq_some hf), by simpa using List.find?_some hf⟩

/-- A successful claim was made by a listed beneficiary that had registered. -/
theorem only_beneficiaries {s s' : State} {n : Nat} {a : Addr} {now : Nat} (h : claim s n a now = .ok s') :
    ∃ p, findPool s.pools n = some p ∧ Listed p s.actors a ∧ (findInfo s.infos n a).isSome = true := by
  obtain ⟨p, ci, _, hc⟩ := claim_ok h
  exact ⟨p, hc.pool, benWeight_ne_zero_listed hc.weight, by simp [hc.info]⟩

/-- what the message cache / proposal cache does with a result: a failed operation leaves the state as it was -/
def commit (s : State) (r : Except Err State) : State :=
  match r with
  | .ok s' => s'
  | .error _ => s

/-- a claim by an account that is not a listed beneficiary, or that never registered, fails and changes nothing -/
theorem non_beneficiary_claim_fails (s : State) (n : Nat) (a : Addr) (now : Nat)
    (h : (∀ p, findPool s.pools n = some p → ¬ Listed p s.actors a) ∨ findInfo s.infos n a = none) :
    (∃ e, claim s n a now = .error e) ∧ commit s (claim s n a now) = s := by
  cases hc : claim s n a now with
  | error e => exact ⟨⟨e, rfl⟩, rfl⟩
  | ok s' =>
    obtain ⟨p, hp, hl, hr⟩ := only_beneficiaries hc
    cases h with
    | inl h => exact absurd hl (h p hp)
    | inr h => rw [h] at hr; cases hr

/-- the withdraw proposal pays only accounts that pass the beneficiary test (by account or by role) -/
theorem withdraw_only_beneficiaries {s s' : State} {n : Nat} {bens : List Addr} {coins : List (Denom × Nat)}
    (h : withdraw s n bens coins = .ok s') :
    ∃ p, findPool s.pools n = some p ∧ ∀ b ∈ bens, isAllowedBen p s.actors b = true := by
  obtain ⟨p, _, _, hp, hl, _⟩ := withdraw_ok h
  exact ⟨p, hp, (withdrawLoop_effect hl).1⟩

/-- nobody outside the beneficiary list of a distribution proposal is paid -/
theorem distribute_frame {s s' : State} {n now : Nat} (h : distribute s n now = .ok s') :
    ∃ p, findPool s.pools n = some p ∧ ∀ x, x ∉ distributionList s p → x ≠ SPEND → s'.bank x = s.bank x := by
  obtain ⟨p, hp, hl⟩ := distribute_ok h
  exact ⟨p, hp, claimAll_frame hl⟩

/-! ## (e) solvency of the spending module: module balance ≥ Σ pool records, for every sequence of operations in which the module
account signs no deposit and no transfer (`Op.fromUser`); funds leave only by a claim or an owners' proposal -/

/-- the operations of the spending module, plus what the environment can do to it: any transfer not signed by the
module account (it has no key), and the UBI payout path (mint to the `mint` module, deposit from it) -/
inductive Op where
  | create (nameOk : Bool) (name : Nat) (x : PoolArgs) (now : Nat)
  | deposit (frm : Addr) (name : Nat) (coins : List (Denom × Nat))
  | register (name : Nat) (a : Addr) (now : Nat)
  | claim (name : Nat) (a : Addr) (now : Nat)
  | update (name : Nat) (x : PoolArgs)
  | distribute (name : Nat) (now : Nat)
  | withdraw (name : Nat) (bens : List Addr) (coins : List (Denom × Nat))
  | endBlock (pfx : Nat → Nat → Addr → Bool) (now : Nat)
  | transfer (frm to : Addr) (coins : List (Denom × Nat))
  | mintDeposit (name : Nat) (coins : List (Denom × Nat))

/-- the only side condition: the spending module account never signs a deposit or a transfer -/
def Op.fromUser : Op → Prop
  | .deposit frm _ _ => frm ≠ SPEND
  | .transfer frm _ _ => frm ≠ SPEND
  | _ => True

/-- ONE operation's raw result (a history is `ops.foldl step s`) -/
def run (s : State) : Op → Except Err State
  | .create ok n x now => create s ok n x now
  | .deposit f n c => deposit s f n c
  | .register n a now => register s n a now
  | .claim n a now => claim s n a now
  | .update n x => update s n x
  | .distribute n now => distribute s n now
  | .withdraw n b c => withdraw s n b c
  | .endBlock pfx now => endBlock s pfx now
  | .transfer f t c => (s.bank.send f t c).map (fun b => { s with bank := b })
  | .mintDeposit n c => deposit { s with bank := s.bank.credit MINT (Amt.ofList c) } MINT n c

def step (s : State) (op : Op) : State := commit s (run s op)

theorem step_cases {P : State → Prop} {s : State} {op : Op} (h0 : P s) (h : ∀ s', run s op = .ok s' → P s') :
    P (step s op) := by
  unfold step commit
  split
  · exact h _ ‹_›
  · exact h0

theorem run_transfer_ok {s s' : State} {f t : Addr} {c : List (Denom × Nat)} (h : run s (.transfer f t c) = .ok s') :
    ∃ b, s.bank.send f t c = .ok b ∧ s' = { s with bank := b } := by
  simp only [run] at h
  cases hb : s.bank.send f t c with
  | error e => rw [hb] at h; cases h
  | ok b => rw [hb] at h; cases h; exact ⟨b, rfl, rfl⟩

theorem solvency_step (s : State) (op : Op) (hu : op.fromUser) (hs : Solvent s) : Solvent (step s op) := by
  refine step_cases hs fun s' h => ?_
  cases op with
  | create ok n x now => exact solvent_create hs h
  | deposit f n c => exact solvent_deposit hs hu h
  | register n a now => exact solvent_register hs h
  | claim n a now => exact solvent_claim hs h
  | update n x => exact solvent_update hs h
  | distribute n now => exact solvent_distribute hs h
  | withdraw n b c => exact solvent_withdraw hs h
  | endBlock pfx now => exact solvent_endBlock hs h
  | transfer f t c => obtain ⟨b, hb, rfl⟩ := run_transfer_ok h; exact solvent_send hs hu hb
  | mintDeposit n c => exact solvent_mintDeposit hs h

/-- From a solvent state every sequence of operations leads to a solvent state -/
theorem solvency_all (ops : List Op) : ∀ (s : State), (∀ op ∈ ops, op.fromUser) → Solvent s → Solvent (ops.foldl step s) :=
  fun _ hu hs => List.foldlRecOn ops step hs fun s' hs' op hop => solvency_step s' op (hu op hop) hs'

example : Solvent ({} : State) := fun _ => Nat.le_refl _

/-- Every operation other than a claim, a distribution proposal
or a withdraw proposal leaves the module balance and every pool record at least as large as before. -/
theorem pool_funds_leave_only_by_claim_or_owner_proposal (s : State) (op : Op) (hu : op.fromUser)
    (hk : match op with | .claim .. => False | .distribute .. => False | .withdraw .. => False | _ => True) :
    (∀ d, s.bank SPEND d ≤ (step s op).bank SPEND d) ∧
    ∀ n p, findPool s.pools n = some p → ∃ p', findPool (step s op).pools n = some p' ∧ ∀ d, p.bal d ≤ p'.bal d := by
  suffices hf : FundsKept s (step s op) from ⟨hf.bank, hf.pools⟩
  refine step_cases (.of_pools_eq (fun _ => Nat.le_refl _) rfl) fun s' h => ?_
  cases op with
  | claim n a now => exact absurd hk id
  | distribute n now => exact absurd hk id
  | withdraw n b c => exact absurd hk id
  | create ok n x now => exact create_fundsKept h
  | deposit f n c => exact deposit_fundsKept hu h
  | register n a now => exact register_fundsKept h
  | update n x => exact update_fundsKept h
  | endBlock pfx now => exact endBlock_fundsKept h
  | transfer f t c => obtain ⟨b, hb, rfl⟩ := run_transfer_ok h; exact send_fundsKept hu hb
  | mintDeposit n c => exact mintDeposit_fundsKept h

/-! ## non-vacuity: one concrete pool, and what claims and the owners' proposals do on it -/

/-- pool 0: start 100, no end, expiry 1000, 1.5 of denom 2 per second; account 1 listed with weight 1 and registered at 50;
account 3 holds role 7 (weight 2) and registered at 120 -/
def exState : State :=
  { pools := [{ name := 0, claimStart := 100, claimEnd := 0, claimExpiry := 1000, rates := [(2, 1500000000000000000)],
                voteQuorum := 0, votePeriod := 0, voteEnactment := 0, ownerRoles := [], ownerAccounts := [0], benRoles := [(7, 2000000000000000000)],
                benAccounts := [(1, 1000000000000000000)], bal := fun d => if d = 2 then 1000 else 0, dynamicRate := false, dynamicRatePeriod := 0, lastDyn := 0 }],
    infos := [{ pool := 0, acct := 1, last := 50 }, { pool := 0, acct := 3, last := 120 }],
    bank := fun x d => if x = SPEND ∧ d = 2 then 1000 else 0,
    actors := fun a => if a = 3 then some [7] else none, accts := [0, 1, 2, 3], voc := [0, 1, 2] }

example : Solvent exState := by
  intro d; simp only [exState, sumPools]; split <;> simp_all

/-- the balance of `a` in `d` after the call; on `exState`, where the beneficiaries start with nothing, what it was paid -/
def paidAfter (r : Except Err State) (a : Addr) (d : Denom) : Option Nat :=
  match r with
  | .ok s => some (s.bank a d)
  | .error _ => none

example : ∃ (s s' : State), claim s 0 1 200 = .ok s' ∧ s'.bank 1 2 = 150 := ⟨exState, _, rfl, by decide⟩

/-- account 4 has registered but is not listed: its claim fails -/
example : ∃ s : State, (findPool s.pools 0).isSome = true ∧ commit s (claim s 0 4 200) = s :=
  ⟨{ exState with infos := [{ pool := 0, acct := 4, last := 50 }] }, rfl, rfl⟩

/-- two consecutive claims of account 1 (at 200 and at 300): 150 for [100,200], then 150 for [200,300] -/
example : paidAfter (claim exState 0 1 200) 1 2 = some 150 := by decide
example : paidAfter ((claim exState 0 1 200).bind (fun s1 => claim s1 0 1 300)) 1 2 = some 300 := by decide

/-- a role holder is paid with the role's weight: 2 × 1.5 × 80 s -/
example : paidAfter (claim exState 0 3 200) 3 2 = some 240 := by decide

example : paidAfter (distribute exState 0 200) 1 2 = some 150 ∧ paidAfter (distribute exState 0 200) 3 2 = some 240 ∧
    paidAfter (distribute exState 0 200) 2 2 = some 0 := by decide

example : paidAfter (withdraw exState 0 [1] [(2, 10)]) 1 2 = some 10 ∧ paidAfter (withdraw exState 0 [2] [(2, 10)]) 2 2 = none := by decide

/-! ## (f) UBI: one payout per period holds for every sequence of block times without `uint64` wrap-around and is false with
it; no payout after the end is false, at most one is what holds

These are about `Ubi.payTimes`, one record in isolation (`Ubi.stepRec`: whether `ProcessUBIRecord` succeeds and pays is an
input of every block). That `Ubi.endLoop` / `Ubi.processRec` treat each record as `stepRec` does is not proved;
`processRec_ok`, which closes the section, is about `Ubi.processRec` itself. -/

/-- payout times are spaced by more than a period, starting from the cursor `L` -/
def SpacedFrom (period : Nat) : Nat → List Nat → Prop
  | _, [] => True
  | L, t :: ts => L + period < t ∧ SpacedFrom period t ts

theorem SpacedFrom_mono {period : Nat} {L L' : Nat} (h : L ≤ L') : ∀ {ts : List Nat}, SpacedFrom period L' ts → SpacedFrom period L ts
  | [], _ => trivial
  | _ :: _, ⟨h1, h2⟩ => ⟨by omega, h2⟩

/-- What holds of clause `ubi_once_per_period`: without `uint64` wrap-around of `DistributionLast + Period`, for every record, every
sequence of blocks (any times, any inflation / deposit outcome per block): consecutive payouts are more than one period
apart, the first one more than a period after the initial `DistributionLast`. -/
theorem ubi_once_per_period_partial (r : Ubi.Rec) (envs : List Ubi.Env)
    (hw0 : r.last + r.period < U64) (hw : ∀ e ∈ envs, e.now + r.period < U64) :
    SpacedFrom r.period r.last (Ubi.payTimes r envs) := by
  induction envs generalizing r with
  | nil => trivial
  | cons e rest ih =>
    have hw' : ∀ x ∈ rest, x.now + r.period < U64 := fun x hx => hw x (List.mem_cons_of_mem _ hx)
    rw [Ubi.payTimes_cons]
    split
    · rename_i hst
      have hlt := (Ubi.due_nowrap hw0 hst.1).1
      have ih' := ih { r with last := e.now } (hw e List.mem_cons_self) hw'
      split
      · exact ⟨hlt, ih'⟩
      · exact SpacedFrom_mono (show r.last ≤ e.now by omega) ih'
    · exact ih r hw0 hw'

example : Ubi.payTimes { name := 1, start := 0, stop := 0, last := 1000, amount := 7, period := 100, pool := 0, dynamic := false }
    [⟨1100, true, true, true⟩, ⟨1101, true, true, true⟩, ⟨1150, true, true, true⟩, ⟨1202, true, true, true⟩] = [1101, 1202] := by decide

/-- the full statement (no side condition) … -/
def ubi_once_per_period_full : Prop :=
  ∀ (r : Ubi.Rec) (envs : List Ubi.Env), SpacedFrom r.period r.last (Ubi.payTimes r envs)

/-- … is false of the code: `DistributionLast + Period` is computed in `uint64`, so a huge period wraps around and the
record pays in consecutive blocks (finding `C18/ubi-endblocker/period-wraparound`) -/
theorem ubi_once_per_period_counterexample : ¬ ubi_once_per_period_full := by
  intro h
  have := h { name := 1, start := 0, stop := 0, last := 1000, amount := 1, period := 18446744073709550616, pool := 0, dynamic := false }
    [⟨2000, true, true, true⟩, ⟨2001, true, true, true⟩]
  -- `1000 + period` wraps around to 0: both blocks pay
  generalize hp : Ubi.payTimes _ _ = l at this
  obtain rfl : l = [2000, 2001] := by rw [← hp]; decide
  simp only [SpacedFrom] at this
  omega

theorem ubi_stops_after_end (r : Ubi.Rec) (envs : List Ubi.Env) (hs : r.stop ≠ 0) (hl : r.stop ≤ r.last) :
    Ubi.payTimes r envs = [] := by
  induction envs with
  | nil => rfl
  | cons e rest ih => rw [Ubi.payTimes_cons, if_neg (by simp [Ubi.not_due_of_stopped e.now hs hl]), ih]

/-- "while active", full statement: no payout at a block time after a non-zero `DistributionEnd` … -/
def ubi_no_payout_after_end_full : Prop :=
  ∀ (r : Ubi.Rec) (envs : List Ubi.Env), r.stop ≠ 0 → ∀ t ∈ Ubi.payTimes r envs, t ≤ r.stop

/-- … is false of the code: the gate tests `DistributionLast < DistributionEnd`, not the block time (finding
`C18/ubi-endblocker/paid-after-end`) -/
theorem ubi_no_payout_after_end_counterexample : ¬ ubi_no_payout_after_end_full := by
  intro h
  have := h { name := 1, start := 0, stop := 1150, last := 1000, amount := 1, period := 100, pool := 0, dynamic := false }
    [⟨1101, true, true, true⟩, ⟨1202, true, true, true⟩] (by decide) 1202 (by decide)
  revert this
  decide

/-- What does hold for every record and every block sequence: at most ONE payout
happens after the end (the one whose predecessor was still before the end). -/
theorem ubi_at_most_one_payout_after_end_partial (r : Ubi.Rec) (envs : List Ubi.Env) (hs : r.stop ≠ 0) :
    ((Ubi.payTimes r envs).filter (fun t => decide (r.stop < t))).length ≤ 1 := by
  induction envs generalizing r with
  | nil => exact Nat.zero_le 1
  | cons e rest ih =>
    rw [Ubi.payTimes_cons]
    split
    · by_cases hafter : r.stop < e.now
      · -- stamped after the end: the record never pays again
        rw [ubi_stops_after_end { r with last := e.now } rest hs (Nat.le_of_lt hafter)]
        split
        · exact List.length_filter_le _ [e.now]
        · exact Nat.zero_le 1
      · have ih' := ih { r with last := e.now } hs
        split
        · rwa [List.filter_cons_of_neg (by simpa using hafter)]
        · exact ih'
    · exact ih r hs

/-- `ProcessUBIRecord` (`Ubi.processRec`): either nothing happens (inflation not possible), or the record is stamped with
the block time and at most `amount × 10^6` is minted and deposited; the spending module stays solvent. -/
theorem processRec_ok {s s' : Ubi.State} {r : Ubi.Rec} {now : Nat} {infl : Bool} {paid : Nat}
    (h : Ubi.processRec s r now infl = .ok (s', paid)) :
    (infl = false ∧ s' = s ∧ paid = 0) ∨
    (infl = true ∧ s'.recs = Ubi.setRec s.recs { r with last := now } ∧ (paid = 0 ∨ (paid : Int) ≤ toI64 r.amount * 1000000) ∧
      (Solvent s.sp → Solvent s'.sp)) := by
  obtain ⟨hi, rfl, rfl⟩ | ⟨hi, ⟨rfl, rfl⟩ | ⟨hle, sp', hd, rfl⟩⟩ := Ubi.processRec_ok h
  · exact .inl ⟨hi, rfl, rfl⟩                                      -- inflation not possible
  · exact .inr ⟨hi, rfl, .inl rfl, id⟩                             -- stamped, nothing paid
  · exact .inr ⟨hi, rfl, .inr hle, fun hs => solvent_mintDeposit hs hd⟩   -- stamped, minted and deposited

/-! ## (g) collectives: a contributor gets back what it bonded (± the rounding of `calcPortion`), never before the lock -/

theorem portions_near (b : Nat) (don : Int) (h0 : 0 ≤ don) (h1 : don ≤ Dec.one) :
    (b : Int) - 1 ≤ Collect.portionOf b (Dec.one - don) + Collect.portionOf b don ∧
    Collect.portionOf b (Dec.one - don) + Collect.portionOf b don ≤ (b : Int) + 1 ∧
    0 ≤ Collect.portionOf b (Dec.one - don) ∧ 0 ≤ Collect.portionOf b don := by
  rw [Collect.portionOf_eq, Collect.portionOf_eq, Int.mul_sub]
  unfold Dec.one at *
  have hb : (0 : Int) ≤ (b : Int) := Int.natCast_nonneg _
  have hx0 : 0 ≤ (b : Int) * don := Int.mul_nonneg hb h0
  have hx1 : (b : Int) * don ≤ (b : Int) * P := Int.mul_le_mul_of_nonneg_left h1 hb
  have := chopRound_compl_near (b : Int) ((b : Int) * don)
  have n1 := chopRound_nonneg hx0
  have n2 : 0 ≤ chopRound ((b : Int) * P - (b : Int) * don) := chopRound_nonneg (by omega)
  omega

theorem portions_exact (b : Nat) (don : Int) (hh : ((b : Int) * don) % P ≠ half) :
    Collect.portionOf b (Dec.one - don) + Collect.portionOf b don = (b : Int) := by
  rw [Collect.portionOf_eq, Collect.portionOf_eq, Int.mul_sub]
  have := chopRound_compl_exact (b : Int) ((b : Int) * don) hh
  unfold Dec.one
  omega

/-- What holds of clause `withdraw_exact`: with a donation share in [0,1] the contributor receives, per bonded
denom, the bonded amount ± 1; exactly the bonded amount unless `donation · bonded` has fractional part ½. -/
theorem withdraw_exact_partial {s s' : Collect.State} {a : Addr} {n : Nat} {now : Nat}
    (ha1 : a ≠ Collect.collAddr n) (ha2 : a ≠ Collect.donAddr n)
    (h : Collect.withdraw s a n now = .ok s') :
    ∃ cc, Collect.findContrib s.contribs n a = some cc ∧ cc.locking ≤ now ∧
      (0 ≤ cc.donation → cc.donation ≤ Dec.one → ∀ d ∈ s.sp.voc,
        (s.sp.bank a d + cc.bonds d - 1 ≤ s'.sp.bank a d ∧ s'.sp.bank a d ≤ s.sp.bank a d + cc.bonds d + 1) ∧
        (((cc.bonds d : Nat) : Int) * cc.donation % P ≠ half → s'.sp.bank a d = s.sp.bank a d + cc.bonds d)) := by
  obtain ⟨cc, hcc, hl, hp⟩ := Collect.withdraw_effect ha1 ha2 h
  refine ⟨cc, hcc, hl, fun h0 h1 d hd => ?_⟩
  have hpd := hp d hd
  obtain ⟨n1, n2, p1, p2⟩ := portions_near (cc.bonds d) cc.donation h0 h1
  have c1 := Int.toNat_of_nonneg p1
  have c2 := Int.toNat_of_nonneg p2
  refine ⟨by omega, fun hh => ?_⟩
  have := portions_exact (cc.bonds d) cc.donation hh
  omega

/-- Before the lock expires the withdrawal fails and changes nothing. -/
theorem withdraw_after_lock (s : Collect.State) (a : Addr) (n : Nat) (now : Nat) (cc : Collect.Contrib)
    (hcc : Collect.findContrib s.contribs n a = some cc) (hl : now < cc.locking) :
    Collect.withdraw s a n now = .error .err := by
  unfold Collect.withdraw
  rw [hcc]
  exact if_pos hl

/-- the full statement "a contributor gets back exactly what it bonded" … -/
def withdraw_exact_full : Prop :=
  ∀ (s s' : Collect.State) (a : Addr) (n now : Nat) (cc : Collect.Contrib), a ≠ Collect.collAddr n → a ≠ Collect.donAddr n →
    Collect.findContrib s.contribs n a = some cc → 0 ≤ cc.donation → cc.donation ≤ Dec.one →
    Collect.withdraw s a n now = .ok s' → ∀ d ∈ s.sp.voc, s'.sp.bank a d = s.sp.bank a d + cc.bonds d

/-- the witness: collective 0 holds 13 units of denom 1 (10 of contributor 7, 3 of contributor 5, both donating one half:
5 + 2 sit in the donation account); contributor 5 withdraws and receives 2 + 2 = 4 for the 3 it bonded -/
def kfState : Collect.State :=
  { sp := { voc := [0, 1, 2], bank := fun x d => if d = 1 then (if x = Collect.collAddr 0 then 6 else if x = Collect.donAddr 0 then 7 else 0) else 0 },
    colls := [{ name := 0, status := 0, depAny := true, depRoles := [], depAccounts := [], bonds := fun d => if d = 1 then 13 else 0, donations := fun _ => 0 }],
    contribs := [{ coll := 0, acct := 7, bonds := fun d => if d = 1 then 10 else 0, locking := 0, donation := 500000000000000000, donationLock := false },
                 { coll := 0, acct := 5, bonds := fun d => if d = 1 then 3 else 0, locking := 0, donation := 500000000000000000, donationLock := false }] }

/-- … is false of the code (finding `C18/collectives-withdraw/portion-rounding`): `calcPortion` rounds (1−d)·b and d·b
separately, half to even -/
theorem withdraw_exact_counterexample : ¬ withdraw_exact_full := by
  intro h
  have hcc : Collect.findContrib kfState.contribs 0 5 = some _ := rfl
  have hw : Collect.withdraw kfState 5 0 10 = .ok _ := rfl
  have := h kfState _ 5 0 10 _ (by decide) (by decide) hcc (by decide) (by decide) hw 1 (by decide)
  revert this
  decide

example : ∃ s', Collect.withdraw kfState 7 0 10 = .ok s' := ⟨_, rfl⟩

example : Collect.withdraw { kfState with contribs := [{ coll := 0, acct := 5, bonds := fun _ => 0, locking := 11, donation := 0, donationLock := false }] } 5 0 10 = .error .err := rfl

/-! ## (h) donations: a contributor's withdrawal leaves the collectives module account alone, `SendDonation` pays at most the
recorded donations -/

theorem send_other {b b' : Bank} {f t : Addr} {l : List (Denom × Nat)} (h : b.send f t l = .ok b') (x : Addr)
    (hf : x ≠ f) (ht : x ≠ t) : b' x = b x := by
  obtain ⟨_, rfl⟩ := send_ok h
  exact move_other b f t x _ hf ht

/-- The bank side of clause `donations_only_by_proposal`: a contributor's withdrawal never touches the collectives module account
(where donations are held): only `SendDonation`, reachable from the send-donation proposal alone, debits it. -/
theorem withdraw_keeps_donation_account {s s' : Collect.State} {a : Addr} {n now : Nat} (ha : a ≠ COLL)
    (h : Collect.withdraw s a n now = .ok s') : s'.sp.bank COLL = s.sp.bank COLL := by
  obtain ⟨cc, bank1, _, _, h1, h2⟩ := Collect.withdraw_ok h
  exact ((Collect.sendIfAny_spec h2).1 COLL (Collect.COLL_ne_collAddr_donAddr n).2 (Ne.symm ha)).trans
    ((Collect.sendIfAny_spec h1).1 COLL (Collect.COLL_ne_collAddr_donAddr n).1 (Ne.symm ha))

/-- `SendDonation` pays at most the recorded donations -/
theorem sendDonation_le_record {s s' : Collect.State} {n : Nat} {to : Addr} {coins : List (Denom × Nat)}
    (h : Collect.sendDonation s n to coins = .ok s') :
    ∃ c, Collect.findColl s.colls n = some c ∧ ∀ e ∈ coins, e.2 ≤ c.donations e.1 := by
  obtain ⟨c, _, hk⟩ := Collect.sendDonation_ok h
  exact ⟨c, hk.coll, fun e he => by simpa using List.all_eq_true.1 hk.covered e he⟩

/-! ## (i) collectives, reward distribution and dissolution: the size of a portion; `distribute` and the EndBlocker's first loop
write no collective and no contributor record; which records a dissolution removes -/

/-- with weight 1 the portion of an amount is the amount (ONE spending pool of weight 1 is sent exactly what was claimed) -/
theorem portion_of_full_weight (a : Nat) : Collect.portionOf a Dec.one = (a : Int) := by
  rw [Collect.portionOf_eq]
  exact chopRound_mul_P (a : Int)

/-- every portion is at most its exact share plus one half … -/
theorem portion_upper (a : Nat) (w : Int) : 2 * P * Collect.portionOf a w ≤ 2 * ((a : Int) * w) + P := by
  rw [Collect.portionOf_eq]; exact chopRound_upper _

/-- … but with several weighted pools the rounded portions can add up to MORE than the rewards claimed - the excess is
taken from the bonds in the same account: 7 units of reward, two pools of weight one half, portions 4 + 4
(finding `C18/collectives-distribution/rounded-portions-exceed-rewards`) -/
theorem distribution_rounding_counterexample :
    Collect.portionOf 7 (Dec.one / 2) + Collect.portionOf 7 (Dec.one / 2) = 8 := by decide

theorem distribute_keeps_records (s s' : Collect.State) (c : Collect.Coll) (h : Collect.distribute s c = .ok s') :
    s'.colls = s.colls ∧ s'.contribs = s.contribs := by
  obtain ⟨s1, s2, s3, coins, dcoins, b, hk⟩ := Collect.distribute_ok h
  obtain rfl := hk.state
  have a1 := Collect.claimRewards_keeps_records hk.claimed
  have a2 := Collect.depositPools_keeps_records hk.deposited
  have a3 := Collect.claimRewards_keeps_records hk.donClaimed
  exact ⟨a3.1.trans (a2.1.trans a1.1), a3.2.trans (a2.2.trans a1.2)⟩

/-- the first loop of the EndBlocker (reward distribution of every active collective whose period has come) writes no
collective and no contributor record -/
theorem distLoop_keeps_records (now : Nat) (l : List Collect.Coll) (s s' : Collect.State)
    (h : Collect.distLoop s now l = .ok s') : s'.colls = s.colls ∧ s'.contribs = s.contribs := by
  revert h
  fun_induction Collect.distLoop s now l <;> try (intro h; cases h; done)
  next => intro h; cases h; exact ⟨rfl, rfl⟩                       -- no collective left
  next s c rest _ s1 hd ih =>                                     -- `c` is due and its distribution succeeded
    intro h
    have a := distribute_keeps_records s s1 c hd
    have b := ih h
    exact ⟨b.1.trans a.1, b.2.trans a.2⟩
  next ih => exact ih                                             -- `c` is due, its distribution failed: skipped
  next ih => exact ih                                             -- `c` is not due

/-- a dissolution (`ExecuteCollectiveRemove`) removes the collective and the records of ITS contributors; every contributor
record of every other collective is still there -/
theorem executeRemove_records {s s' : Collect.State} {c : Collect.Coll} (h : Collect.executeRemove s c = .ok s') :
    (∀ x, x ∈ s'.contribs ↔ x ∈ s.contribs ∧ x.coll ≠ c.name) ∧ Collect.findColl s'.colls c.name = none := by
  obtain ⟨s1, s2, hd, hw, rfl⟩ := Collect.executeRemove_ok h
  refine ⟨fun x => ?_, ?_⟩
  · show x ∈ s2.contribs ↔ _
    rw [Collect.withdrawAll_contribs hw x, (distribute_keeps_records s s1 c hd).2]
    -- the loop ran over the records of `c`: the key of `x` is among them iff `x` itself is
    refine and_congr_right fun hx => ⟨fun hne e => ?_, fun hne cc hcc e => ?_⟩
    · exact hne x (List.mem_filter.2 ⟨hx, by simpa using e⟩) ⟨rfl, rfl⟩   -- `x` of `c` would be among them
    · exact hne (e.1.trans (by simpa using (List.mem_filter.1 hcc).2))    -- `cc` among them is a record of `c`
  · show Collect.findColl (s2.colls.filter _) c.name = none
    unfold Collect.findColl
    rw [List.find?_eq_none]
    intro q hq
    simpa using (List.mem_filter.mp hq).2

/-! ### Key spaces of the stores this model keeps in separate maps (table `Gen.Keys`; why it matters: `Sekai/Model/Keys.lean`) -/

theorem spending_key_spaces_disjoint : Sekai.Keys.disjoint Sekai.Gen.Keys.stores "spending" = true :=
  Sekai.Keys.disjoint_of_pairwise_apart (by decide +kernel)

theorem collectives_key_spaces_disjoint : Sekai.Keys.disjoint Sekai.Gen.Keys.stores "collectives" = true :=
  Sekai.Keys.disjoint_of_pairwise_apart (by decide +kernel)

theorem ubi_key_spaces_disjoint : Sekai.Keys.disjoint Sekai.Gen.Keys.stores "ubi" = true :=
  Sekai.Keys.disjoint_of_pairwise_apart (by decide +kernel)

end Sekai.Props.C18
