import Sekai.Model.Replica
import Sekai.Gen.Ambient
import Sekai.Model.Perm
import Sekai.Model.Stake
import Sekai.Gen.App
import SekaiProofs.Lemmas.Chars
/-! # C01 — Replicated execution is deterministic

A machine whose step reads nothing of the environment runs alike on every replica (`run_env_irrelevant`); a poll deadline read from the
wall clock is the shape that breaks it (`old_poll_not_env_indep`); the poll handler that reads the block time, and the modelled permission
and validator machines, read nothing of it by construction. The other six are obligations over the tables REGENERATED from the source. -/
namespace Sekai.Props.C01
open Sekai.Replica

theorem run_env_irrelevant {Env State Block Out} (m : Machine Env State Block Out) (h : EnvIndep m)
    (envA envB : Nat → Env) (bs : List Block) (s : State) (h0 : Nat) :
    run m envA h0 s bs = run m envB h0 s bs := by
  induction bs generalizing s h0 with
  | nil => rfl
  | cons b rest ih => simp only [run, h (envA h0) (envB h0) s b, ih]

theorem replicas_agree {Env State Block Out} (m : Machine Env State Block Out) (h : EnvIndep m)
    (envs : List (Nat → Env)) (bs : List Block) (s : State) :
    ∀ ea ∈ envs, ∀ eb ∈ envs, run m ea 0 s bs = run m eb 0 s bs :=
  fun ea _ eb _ => run_env_irrelevant m h ea eb bs s 0

theorem old_poll_not_env_indep : ¬ EnvIndep oldPollCreate := by
  intro h
  have := h ⟨1⟩ ⟨2⟩ [] 10
  simp [oldPollCreate] at this

theorem new_poll_env_indep : EnvIndep newPollCreate := fun _ _ _ _ => rfl

example : run oldPollCreate (fun _ => ⟨100⟩) 0 [] [5] ≠ run oldPollCreate (fun _ => ⟨101⟩) 0 [] [5] := by decide

def permMachine (Env : Type) : Machine Env Sekai.Perm.St Sekai.Perm.Op Bool :=
  { step := fun _ s op => match Sekai.Perm.step s op with | some s' => (s', true) | none => (s, false) }
theorem perm_env_indep (Env : Type) : EnvIndep (permMachine Env) := fun _ _ _ _ => rfl

def stakeMachine (Env : Type) (p : Sekai.Stake.Params) : Machine Env Sekai.Stake.S Sekai.Stake.Op Bool :=
  { step := fun _ s op => match Sekai.Stake.step p s op with | some s' => (s', true) | none => (s, false) }
theorem stake_env_indep (Env : Type) (p : Sekai.Stake.Params) : EnvIndep (stakeMachine Env p) := fun _ _ _ _ => rfl

/-- no wall-clock, randomness, environment or goroutine use in consensus code; the three `math/rand` imports are the
simulation stubs of module.go files (AppModuleSimulation), which block processing never calls -/
theorem no_ambient_reads : Sekai.Gen.Ambient.reads = [
    ("rand", "x/evidence/module.go", "-", "import math/rand"),
    ("rand", "x/recovery/module.go", "-", "import math/rand"),
    ("rand", "x/slashing/module.go", "-", "import math/rand")] := by rfl

/-- every `range` over a map in consensus code (typed extraction), with the hash of its loop body. Each was read and
is order-insensitive: map→map copies (app.go), store writes under distinct keys (gov InitGenesis), the two passes of
CheckIfAllowedPermission (all-true then all-false writes: proved order-irrelevant in C07.check_iff_rule), a query
(AllExecutionFees), a CLI helper (WrapInfos) and the poll tally loops (an option above 50 % is unique; the second loop
yields a list of length ≥ 2 for every non-empty vote map whatever the order). A new loop, or a changed body, changes this table. -/
theorem map_ranges_as_reviewed : Sekai.Gen.Ambient.mapRanges = [
    ("app/app.go", "BlockedAddresses", "GetMaccPerms()", "809b185207be"),
    ("app/app.go", "GetMaccPerms", "maccPerms", "fac2042bccf5"),
    ("app/app.go", "SekaiApp.ModuleAccountAddrs", "maccPerms", "809b185207be"),
    ("x/gov/genesis.go", "InitGenesis", "genesisState.DataRegistry", "2e337de03f12"),
    ("x/gov/genesis.go", "InitGenesis", "genesisState.ProposalDurations", "a6997173303e"),
    ("x/gov/genesis.go", "InitGenesis", "genesisState.RolePermissions", "88f2c27b8a46"),
    ("x/gov/keeper/grpc_query.go", "Keeper.AllExecutionFees", "kiratypes.MsgFuncIDMapping", "26c0b6e753b0"),
    ("x/gov/keeper/util.go", "CheckIfAllowedPermission", "roles", "78f2e1b80a17"),
    ("x/gov/keeper/util.go", "CheckIfAllowedPermission", "roles", "1b33bf1d407c"),
    ("x/gov/types/identity_registrar.go", "WrapInfos", "infos", "c504e8f382ec"),
    ("x/gov/types/poll_vote.go", "CalculatedPollVotes.ProcessResult", "c.votes", "3470010cd733"),
    ("x/gov/types/poll_vote.go", "CalculatedPollVotes.ProcessResult", "c.votes", "4698a9ea87a1")] := by rfl

/-- the two helpers whose OUTPUT ORDER follows Go's map order (`WrapInfos` turns a map into a list, `AllExecutionFees`
lists a map) were accepted above because nothing in consensus code calls them (a CLI helper and a query): that premise
is an obligation of its own. `mapRangeCallers` lists, by callee name, every call in consensus code of a function that
ranges over a map. -/
theorem order_sensitive_map_helpers_off_consensus_path :
    Sekai.Gen.Ambient.mapRangeCallers.filter (fun r => r.1 == "WrapInfos" || r.1 == "AllExecutionFees") = [] := by
  decide +kernel

/-- **no application state outside the key-value store.** `processState` lists (1) every field of a keeper, decorator,
handler or msg-server struct whose type can hold mutable data (map, slice, pointer, channel, `sync` / `atomic` types) and
(2) every package-level variable that some function writes. The only entry is the upgrade keeper's handler table, filled
once at start-up (`SetUpgradeHandler` in app.go) and read-only afterwards. State kept in process memory is not part of
the application hash, survives the roll-back of a failed transaction or of a discarded branch (`CacheContext`, the
dry-run of `MsgSubmitProposal`, simulation, CheckTx) and is lost by a restart: two replicas executing the same blocks
can then answer differently (`run_env_irrelevant` covers exactly the machines whose step reads nothing but the
store and the block). -/
theorem no_state_outside_the_store : Sekai.Gen.Ambient.processState =
    [("x/upgrade/keeper/keeper.go", "Keeper", "upgradeHandlers", "map[string]types.UpgradeHandler")] := by rfl

/-- protobuf messages with map fields. Genesis / query messages are not stored by block processing; the five
custody messages ARE stored by the custody keeper and gogoproto writes their entries in Go map order: two replicas
can store different bytes for the same record (recorded finding `C01/custody/map-marshal-order`). -/
theorem pb_map_fields_as_reviewed : Sekai.Gen.Ambient.pbMapFields = [
    ("x/custody/types/custody.pb.go", "CustodyCustodianList", "Addresses"),
    ("x/custody/types/custody.pb.go", "CustodyLimits", "Limits"),
    ("x/custody/types/custody.pb.go", "CustodyStatuses", "Statuses"),
    ("x/custody/types/custody.pb.go", "CustodyWhiteList", "Addresses"),
    ("x/custody/types/tx.pb.go", "TransactionPool", "Record"),
    ("x/gov/legacy/v01228/genesis.pb.go", "GenesisStateV01228", "DataRegistry"),
    ("x/gov/legacy/v01228/genesis.pb.go", "GenesisStateV01228", "Permissions"),
    ("x/gov/types/genesis.pb.go", "GenesisState", "DataRegistry"),
    ("x/gov/types/genesis.pb.go", "GenesisState", "ProposalDurations"),
    ("x/gov/types/genesis.pb.go", "GenesisState", "RolePermissions"),
    ("x/gov/types/query.pb.go", "QueryAllProposalDurationsResponse", "ProposalDurations"),
    ("x/slashing/types/query.pb.go", "IdentityRecord", "Infos"),
    ("x/tokens/types/query.pb.go", "TokenInfosByDenomResponse", "Data")] := by rfl

/-- The ante chain, the Begin/EndBlocker orders, the genesis order and the proposal router are literal lists in the
source (the extractor emits an `unrecognised` row for anything conditional or computed), and no module appears twice
in an order: the sequence in which decorators and modules run is a function of the source alone, the same on every
replica. -/
theorem wiring_is_static :
    (Sekai.App.recognised Sekai.Gen.App.anteChain && Sekai.App.recognised Sekai.Gen.App.beginOrder && Sekai.App.recognised Sekai.Gen.App.endOrder &&
     Sekai.App.recognised Sekai.Gen.App.initOrder && Sekai.App.recognised Sekai.Gen.App.proposalHandlers &&
     Sekai.App.recognised (Sekai.Gen.App.maccPerms.map (·.1)) &&
     Sekai.Gen.App.beginOrder.all (Sekai.App.once Sekai.Gen.App.beginOrder) && Sekai.Gen.App.endOrder.all (Sekai.App.once Sekai.Gen.App.endOrder) &&
     Sekai.Gen.App.initOrder.all (Sekai.App.once Sekai.Gen.App.initOrder)) = true := by
  rw [Sekai.Chars.anteChain.2, Sekai.Chars.beginOrder.2, Sekai.Chars.endOrder.2, Sekai.Chars.initOrder.2,
    Sekai.Chars.proposalHandlers.2, Sekai.Chars.moduleAccounts.2]
  simp only [Sekai.Chars.recognised_map_ofList, Sekai.Chars.once_map_ofList, List.all_map, Function.comp_def, String.toList_ofList]
  decide +kernel

end Sekai.Props.C01
