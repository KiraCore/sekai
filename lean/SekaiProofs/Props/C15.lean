import SekaiProofs.Lemmas.Stake
import SekaiProofs.Lemmas.Dec
import Sekai.Gen.App
import Sekai.Gen.Keys
import SekaiProofs.Lemmas.Keys
/-! # C15 — Validator status follows allowed transitions; offences and downtime are punished

`edge` is the table of status edges as coded; `transitions` says that a step moves its target along one of them and nobody else.
After it come the punishments the property names, over all states: jailing (by slashing and on valid evidence), inactivation on
downtime, no punishment for a signer, rank and streak never negative, the ways out of jail; their hypotheses on the parameters
are `0 ≤ maxMischance` and an inactive-rank percentage of at most 1. Two edges of the code contradict the property and are
recorded as findings with closed witnesses: the keeper-level Pause of the upgrade plan turns Jailed into Paused (then the owner
unpauses), and the rank reset turns Paused / Inactive into Active. The file closes with the table obligations (hooks, key spaces). -/
namespace Sekai.Props.C15
open Sekai Sekai.Stake

/-- the status edges an operation may take on its target validator (as coded) -/
def edge (p : Params) (s : S) : Op → Status → Status → Prop
  | .msgPause _, a, b => a = .active ∧ b = .paused
  | .msgUnpause _, a, b => a = .paused ∧ b = .active
  | .msgActivate v now, a, b => a = .inactive ∧ b = .active ∧ s.inactiveUntil v ≤ now
  | .sig v signed _, a, b => a = .active ∧ (b = .active ∨ (b = .inactive ∧ signed = false ∧ (sigCounters p s v signed).mis > p.maxMischance))
  | .jail _ _, a, b => a ≠ .jailed ∧ b = .jailed
  | .unjail v now, a, b => a = .jailed ∧ b = .inactive ∧ ∃ jt, s.jailTime v = some jt ∧ now ≤ jt + p.unjailMaxTime
  | .evidence _ _ known stale, a, b => known = true ∧ stale = false ∧ a ≠ .jailed ∧ b = .jailed
  | .kPause _, a, b => a ≠ .inactive ∧ b = .paused
  | .rankReset, _, b => b = .active

def target : Op → Option Nat
  | .msgPause v | .msgUnpause v | .msgActivate v _ | .sig v _ _ | .jail v _ | .unjail v _ | .kPause v
  | .evidence v _ _ _ => some v
  | .rankReset => none

/-- the conclusion of `transitions` for a step that writes `st` into the status of its target `v`, along an edge the operation
allows, and touches no other status -/
theorem edge_upd {p : Params} {s : S} {op : Op} {v : Nat} {st : Status} {w : Nat} (ht : target op = some v)
    (he : edge p s op (s.status v) st) :
    upd s.status v st w = s.status w ∨
      ((target op = some w ∨ target op = none) ∧ edge p s op (s.status w) (upd s.status v st w)) := by
  by_cases e : w = v
  · subst e; rw [upd_same]; exact .inr ⟨.inl ht, he⟩
  · exact .inl (upd_other _ _ e)

/-- **a status changes only along the edge its operation allows, and only for the operation's target** -/
theorem transitions (p : Params) (hmax : 0 ≤ p.maxMischance) (s s' : S) (op : Op) (hs : step p s op = some s') (w : Nat) :
    s'.status w = s.status w ∨ ((target op = some w ∨ target op = none) ∧ edge p s op (s.status w) (s'.status w)) := by
  cases Step.of_step hs with
  | pause _ ha => exact edge_upd rfl ⟨ha, rfl⟩
  | unpause hp => exact edge_upd rfl ⟨hp, rfl⟩
  | activate hi hle => exact edge_upd rfl ⟨hi, rfl, Int.not_lt.mp hle⟩
  | sig _ _ => exact .inl rfl
  | @sigDown _ signed _ ha hm =>
    refine edge_upd rfl ⟨ha, .inr ⟨rfl, ?_, hm⟩⟩
    cases signed with
    | false => rfl
    | true => rw [sigCounters_signed] at hm; omega
  | jail hn => exact edge_upd rfl ⟨hn, rfl⟩
  | evidence hn => exact edge_upd rfl ⟨rfl, rfl, hn, rfl⟩
  | unjail hj hjt hle => exact edge_upd rfl ⟨hj, rfl, _, hjt, Int.not_lt.mp hle⟩
  | kPause hn => exact edge_upd rfl ⟨hn, rfl⟩
  | rankReset => exact .inr ⟨.inr rfl, rfl⟩
  | sigSkip _ | jailSkip _ | evidenceJailed _ | evidenceSkip _ | kPauseSkip _ => exact .inl rfl

/-- slashing Jail on a validator that is not jailed yet (slash proposal path, and the core of the evidence path) -/
theorem jail_jails (p : Params) (s : S) (v : Nat) (now : Int) :
    ∃ s', step p s (.jail v now) = some s' ∧ s'.status v = .jailed := by
  by_cases hj : s.status v = .jailed
  · exact ⟨_, Step.to_step (.jailSkip hj), hj⟩
  · exact ⟨_, Step.to_step (.jail hj), upd_same ..⟩

/-- **valid double-sign evidence always jails the offender** — whatever its status when the evidence is handled
(active, paused by its owner after the infraction, inactivated for downtime earlier in the same BeginBlock, or jailed
already): the evidence handler never fails, the offender is jailed afterwards, queued for removal from the consensus
set if it was not jailed before, and nobody else's status changes -/
theorem evidence_jails (p : Params) (s : S) (v : Nat) (now : Int) :
    ∃ s', step p s (.evidence v now true false) = some s' ∧ s'.status v = .jailed ∧
      (s.status v ≠ .jailed → s'.R v = true ∧ s'.A v = false) ∧ ∀ w, w ≠ v → s'.status w = s.status w := by
  by_cases hj : s.status v = .jailed
  · exact ⟨_, Step.to_step (.evidenceJailed hj), hj, fun h => absurd hj h, fun _ _ => rfl⟩
  · exact ⟨_, Step.to_step (.evidence hj), upd_same .., fun _ => ⟨upd_same .., upd_same ..⟩,
      fun w hw => upd_other _ _ hw⟩

/-- evidence that cannot be used (unknown consensus key, or older than both age limits) changes nothing -/
theorem unusable_evidence_ignored (p : Params) (s : S) (v : Nat) (now : Int) (known stale : Bool)
    (h : known = false ∨ stale = true) : step p s (.evidence v now known stale) = some s :=
  Step.to_step (.evidenceSkip (by rcases h with h | h <;> simp [h]))

example : ∃ s', step {} ({ status := fun _ => .paused } : S) (.evidence 0 7 true false) = some s' ∧ s'.status 0 = .jailed :=
  ⟨_, rfl, by simp [demote, upd]⟩

/-- **missing more consecutive blocks than allowed always inactivates**: an active validator whose mischance counter
passes the maximum with this missed block becomes inactive (and is queued for removal from the consensus set) -/
theorem downtime_inactivates (p : Params) (s : S) (v : Nat) (now : Int) (hact : s.status v = .active)
    (hover : (sigCounters p s v false).mis > p.maxMischance) :
    ∃ s', step p s (.sig v false now) = some s' ∧ s'.status v = .inactive ∧ s'.R v = true ∧
      s'.inactiveUntil v = now + p.downtimeInactive :=
  ⟨_, Step.to_step (.sigDown hact hover), upd_same .., upd_same .., upd_same ..⟩

/-- the mischance counter itself: it grows by one per missed block once the confidence window is used up -/
theorem mischance_counts (p : Params) (s : S) (v : Nat) (h : s.conf v ≥ p.mischanceConfidence) :
    (sigCounters p s v false).mis = s.mischance v + 1 := by
  unfold sigCounters
  simp only [Bool.false_eq_true, if_false, h, if_true]
  split <;> rfl

/-- **a validator that signs is never punished**: it stays active, its rank does not decrease, its mischance is reset -/
theorem signer_never_punished (p : Params) (hmax : 0 ≤ p.maxMischance) (s : S) (v : Nat) (now : Int) (hact : s.status v = .active) :
    ∃ s', step p s (.sig v true now) = some s' ∧ s'.status v = .active ∧ s'.rank v ≥ s.rank v ∧
      s'.mischance v = 0 ∧ s'.R v = s.R v := by
  have hm : ¬ (sigCounters p s v true).mis > p.maxMischance := by rw [sigCounters_signed]; omega
  refine ⟨_, Step.to_step (.sig hact hm), hact, ?_, (upd_same ..).trans (sigCounters_signed p s v), rfl⟩
  show upd s.rank v _ v ≥ s.rank v
  rw [upd_same]
  simp only [sigCounters, if_true]
  split <;> omega

def NonNeg (s : S) : Prop := ∀ v, 0 ≤ s.rank v ∧ 0 ≤ s.streak v

theorem sigCounters_nonneg (p : Params) {s : S} (h : NonNeg s) (v : Nat) (signed : Bool) :
    0 ≤ (sigCounters p s v signed).rank ∧ 0 ≤ (sigCounters p s v signed).streak := by
  have := h v
  unfold sigCounters
  cases signed
  · simp only [Bool.false_eq_true, if_false]
    -- how the mischance counter moves does not matter, only whether it ends up positive
    generalize (if s.conf v ≥ p.mischanceConfidence then s.mischance v + 1 else s.mischance v) = m
    split
    · exact ⟨Int.le_max_right _ _, Int.le_refl 0⟩      -- the mischance counter is positive: rank lowered but not below 0, streak 0
    · exact this                                        -- it is still 0: both kept
  · simp only [if_true]
    exact ⟨by split <;> omega, by omega⟩

theorem NonNeg.upd {s s' : S} (h : NonNeg s) {v : Nat} {r k : Int} (hr : 0 ≤ r) (hk : 0 ≤ k)
    (h1 : s'.rank = Stake.upd s.rank v r) (h2 : s'.streak = Stake.upd s.streak v k) : NonNeg s' := by
  intro w
  rw [h1, h2]
  by_cases e : w = v
  · subst e; rw [upd_same, upd_same]; exact ⟨hr, hk⟩
  · rw [upd_other _ _ e, upd_other _ _ e]; exact h w

/-- **rank and streak never go negative**, whatever happens (inactive-rank percentage within its validated range) -/
theorem rank_streak_nonneg (p : Params) (hp : p.inactiveRankPct ≤ Dec.one) (s s' : S) (op : Op)
    (h : NonNeg s) (hs : step p s op = some s') : NonNeg s' := by
  cases Step.of_step hs with
  | @sig v signed _ _ _ =>
    have hc := sigCounters_nonneg p h v signed
    exact h.upd hc.1 hc.2 rfl rfl
  | @sigDown v signed _ _ _ =>
    have hc := sigCounters_nonneg p h v signed
    have h1 : NonNeg { s with rank := upd s.rank v _, streak := upd s.streak v _ } := h.upd hc.1 hc.2 rfl rfl
    refine h1.upd ?_ (Int.le_refl 0) rfl rfl
    rw [Dec.ofInt_mul]
    exact Dec.chopRound_nonneg (Int.mul_nonneg hc.1 (Int.sub_nonneg_of_le hp))
  | rankReset => exact fun _ => ⟨Int.le_refl 0, Int.le_refl 0⟩
  | _ => exact h      -- no other step writes `rank` or `streak`: their projections of the result are those of `s`

/-- **a jailed validator leaves jail only through an unjail proposal within the allowed time, a rank reset — or,
a recorded finding, the keeper-level Pause of the upgrade plan** -/
theorem leaves_jail_only_by (p : Params) (hmax : 0 ≤ p.maxMischance) (s s' : S) (op : Op) (v : Nat)
    (hs : step p s op = some s') (hj : s.status v = .jailed) (hout : s'.status v ≠ .jailed) :
    (∃ now jt, op = .unjail v now ∧ s.jailTime v = some jt ∧ now ≤ jt + p.unjailMaxTime) ∨ op = .rankReset ∨ op = .kPause v := by
  rcases transitions p hmax s s' op hs v with heq | ⟨ht, he⟩
  · rw [heq] at hout; exact absurd hj hout
  · cases op with
    | unjail w now =>
      obtain ⟨_, _, jt, hjt, hle⟩ := he
      have e : w = v := by simpa [target] using ht
      exact .inl ⟨now, jt, e ▸ rfl, e ▸ hjt, hle⟩
    | kPause w =>
      have e : w = v := by simpa [target] using ht
      exact .inr (.inr (e ▸ rfl))
    | rankReset => exact .inr (.inl rfl)
    | _ => simp [edge, hj] at he

/-- the property's edge table -/
def propertyAllows : Status → Status → Bool
  | .active, .paused | .paused, .active | .inactive, .active | .active, .inactive | .jailed, .inactive => true
  | .active, .jailed | .inactive, .jailed | .paused, .jailed => true
  | .jailed, .active => true      -- network-wide rank reset
  | a, b => a == b

def sJ : S := { status := fun v => if v = 0 then .jailed else .active, jailTime := fun v => if v = 0 then some 0 else none }
/-- finding: the upgrade plan's keeper-level Pause turns a jailed validator into a paused one, which its owner can unpause -/
theorem kpause_jailed_counterexample :
    let s1 := (step {} sJ (.kPause 0)).getD sJ
    let s2 := (step {} s1 (.msgUnpause 0)).getD s1
    propertyAllows (sJ.status 0) (s1.status 0) = false ∧ s2.status 0 = .active := by decide

def sP : S := { status := fun v => if v = 0 then .paused else if v = 1 then .inactive else .active, inactiveUntil := fun _ => 1000 }
/-- finding: the rank reset re-activates paused and inactive validators (not their owners, not after the inactivity
period). The edge Paused → Active IS in the property's table (third conjunct), but for the owner's unpause; so is
Inactive → Active, but for an activation after `inactiveUntil`, which at this moment is refused (last conjunct) -/
theorem rank_reset_reactivates_counterexample :
    let s1 := (step {} sP .rankReset).getD sP
    s1.status 0 = .active ∧ s1.status 1 = .active ∧ propertyAllows .paused .active = true ∧
      (step {} sP (.msgActivate 1 999)) = none := by decide

/-- the staking keeper carries the slashing module's hooks (signing info is created when a validator is claimed) -/
theorem staking_hooks_wired :
    Sekai.Gen.App.hooks.contains ("customStakingKeeper", "stakingtypes.NewMultiStakingHooks(app.CustomSlashingKeeper.Hooks())") = true := by
  decide +kernel

/-! ### Key spaces of the stores this model keeps in separate maps (table `Gen.Keys`; why it matters: `Sekai/Model/Keys.lean`) -/

theorem staking_key_spaces_disjoint : Sekai.Keys.disjoint Sekai.Gen.Keys.stores "staking" = true :=
  Sekai.Keys.disjoint_of_pairwise_apart (by decide +kernel)

theorem slashing_key_spaces_disjoint : Sekai.Keys.disjoint Sekai.Gen.Keys.stores "slashing" = true :=
  Sekai.Keys.disjoint_of_pairwise_apart (by decide +kernel)

end Sekai.Props.C15
