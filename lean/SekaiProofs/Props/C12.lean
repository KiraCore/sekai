import Sekai.Model.PermGenesis
import Sekai.Gen.Genesis
import Sekai.Driver.GenesisCov
import SekaiProofs.Props.C07
import SekaiProofs.Lemmas.PermGenesis
import Sekai.Gen.App
import Sekai.Model.App
import Sekai.Gen.Keys
import SekaiProofs.Lemmas.Keys
/-! # C12 — Genesis export and re-import reproduce the chain state  (partial: byte-level stores)

* permission state: role blacklists are not re-imported (the replay is commented out in x/gov/genesis.go), so an actor that was
  denied a permission holds it after export + import (`perm_roundtrip_counterexample`); states without role blacklists do
  round-trip (`perm_roundtrip_partial`, up to `PermGenesis.Equiv`, so every permission query answers as before), and that
  hypothesis cannot be dropped.
* record kinds: the reviewed table of what each module stores, exports and imports (`Gen.Genesis.modules`); the presence model
  `Sekai.GenesisCov` (a record survives export + import iff some InitGenesis writes its kind) with the reviewed lists of lost
  and rebuilt kinds, which speak of `Driver.GenesisCov.mods` (hence the import of a line-protocol driver): the coverage table the
  running model answers from.
* wiring the round trip relies on: the import order of the modules (`Gen.App`) and key tables without overlapping prefixes
  (`Gen.Keys`).
* dynamic tie: states populated by real block histories, exported by the application's own export, imported into a
  fresh application, every module store compared key by key. -/
namespace Sekai.Props.C12
open Sekai.Perm Sekai.PermGenesis

/-- every account id mentioned by the history is below `n`, and fewer than `n` roles are created (role ids are
allocated 1, 2, …): then the domains `0..n-1` cover every stored actor and role -/
def opsWithin (n : Nat) (ops : List Op) : Bool :=
  ops.all (fun op => match op with
    | .wlAcct a _ | .blAcct a _ | .rmWlAcct a _ | .rmBlAcct a _ | .assign a _ | .unassign a _ => decide (a < n)
    | _ => true) &&
  decide ((ops.filter (fun op => match op with | .createRole => true | _ => false)).length + 1 < n)

/-- after export + import every permission query answers as before, for every reachable state -/
def perm_roundtrip_full : Prop :=
  ∀ (ops : List Op) (n a p : Nat), opsWithin n ops = true →
    checkAllowed (init (exportGen (List.range n) (List.range n) (ops.foldl Sekai.Perm.apply {}))) a p =
      checkAllowed (ops.foldl Sekai.Perm.apply {}) a p

/-- a role whitelists 7 for its members, a second role blacklists it: the member is denied before the export and
allowed after the import -/
theorem perm_roundtrip_counterexample : ¬ perm_roundtrip_full := by
  intro h
  have := h [Op.createRole, .createRole, .wlRole 1 7, .blRole 2 7, .assign 3 1, .assign 3 2] 5 3 7 (by decide)
  revert this
  decide

example :
    let s := [Op.createRole, .createRole, .wlRole 1 7, .blRole 2 7, .assign 3 1, .assign 3 2].foldl Sekai.Perm.apply {}
    checkAllowed s 3 7 = false ∧ checkAllowed (init (exportGen [3] [1, 2] s)) 3 7 = true := by decide

example :
    let s := [Op.createRole, .wlRole 1 7, .assign 3 1, .wlAcct 4 7, .blAcct 3 9].foldl Sekai.Perm.apply {}
    let t := init (exportGen [3, 4] [1] s)
    (∀ a ∈ [3, 4, 5], ∀ p ∈ [7, 9], checkAllowed t a p = checkAllowed s a p) ∧ voters t 7 = voters s 7 := by decide

/-- **export then import reproduces the permission state (records, the three indexes as sets, the role counter) for
every state satisfying the index invariant — hence every reachable one — provided no role carries a blacklist**
(`hna` is not used: an id listed twice is exported twice with the same record, and `Equiv` compares the indexes as
sets. Every caller has it: the store iterators of the export enumerate distinct keys.) -/
theorem perm_roundtrip_partial (s : St) (hI : Sekai.Props.C07.Inv s)
    (actorIds roleIds : List Nat) (hna : actorIds.Nodup) (hnr : roleIds.Nodup)
    (hca : ∀ a, (s.actors a).isSome → a ∈ actorIds) (hcr : ∀ r, (s.roleReg r).isSome → r ∈ roleIds)
    (hbl : ∀ r ps, s.roleReg r = some ps → ps.bl = []) :
    Sekai.PermGenesis.Equiv (init (exportGen actorIds roleIds s)) s := by
  have hL := mem_export s.actors actorIds
  have hRP := mem_export s.roleReg roleIds
  have hR : ∀ r, r ∈ (exportGen actorIds roleIds s).roles ↔ r ∈ roleIds ∧ (s.roleReg r).isSome := fun r => by
    simp [exportGen]
  obtain ⟨u1, u2, h1, h2, h3⟩ := init_phases (exportGen actorIds roleIds s)
    ((export_keys s.roleReg roleIds).symm ▸ hnr.sublist List.filter_sublist)
    (fun r ps hm => hI.rwlNodup r ps ((hRP r ps).mp hm).2)
    (fun r ps hm => (hR r).mpr ⟨((hRP r ps).mp hm).1, by rw [((hRP r ps).mp hm).2]; rfl⟩)
  refine { actors := fun a => ?actors, roles := fun r => ?roles, permAddr := fun e => ?permAddr
           roleAddr := fun e => ?roleAddr, permRole := fun e => ?permRole
           next := by rw [h3.nextRole, h2.nextRole, h1.nextRole]; rfl }
  case actors =>
    rw [h3.actors, h2.actors]
    rcases h1.actors a with ⟨ax, hm, rfl, hu⟩ | ⟨hn, hu⟩
    · rw [hu, ((hL ax.1 ax.2).mp hm).2]
    · rw [hu]
      cases ha : s.actors a with
      | none => rfl
      | some x => exact absurd rfl (hn (a, x) ((hL a x).mpr ⟨hca a (by rw [ha]; rfl), ha⟩))
  case roles =>
    cases hr : s.roleReg r with
    | none =>
      have : r ∉ (exportGen actorIds roleIds s).roles := fun hm => by simpa [hr] using ((hR r).mp hm).2
      rw [h3.miss r (fun ps hm => nomatch hr.symm.trans ((hRP r ps).mp hm).2), h2.roleReg r, if_neg this, h1.roleReg]
    | some ps =>
      rw [h3.hit r ps ((hRP r ps).mpr ⟨hcr r (by rw [hr]; rfl), hr⟩), ← hbl r ps hr]
  case permAddr =>
    rw [h3.idxPermAddr, h2.idxPermAddr, h1.permAddr e]
    exact (or_iff_right List.not_mem_nil).trans (mem_export_idx s.actors (·.perms.wl) actorIds hca _ hI.permAddr e)
  case roleAddr =>
    rw [h3.idxRoleAddr, h2.idxRoleAddr, h1.roleAddr e]
    exact (or_iff_right List.not_mem_nil).trans (mem_export_idx s.actors (·.roles) actorIds hca _ hI.roleAddr e)
  case permRole =>
    rw [h3.permRole e, h2.idxPermRole, h1.idxPermRole]
    exact (or_iff_right List.not_mem_nil).trans (mem_export_idx s.roleReg (·.wl) roleIds hcr _ hI.permRole e)

/-- **C07 across a genesis import (partial)**: on a state without role blacklists every account's answer to "does it
hold permission p" is the same before the export and after the import. (With role blacklists it is not:
`perm_roundtrip_counterexample`; the C07 harness re-imports the gov state in place and tolerates exactly that case.) -/
theorem import_keeps_every_permission_answer_partial (s : St) (hI : Sekai.Props.C07.Inv s)
    (actorIds roleIds : List Nat) (hna : actorIds.Nodup) (hnr : roleIds.Nodup)
    (hca : ∀ a, (s.actors a).isSome → a ∈ actorIds) (hcr : ∀ r, (s.roleReg r).isSome → r ∈ roleIds)
    (hbl : ∀ r ps, s.roleReg r = some ps → ps.bl = []) (a p : Nat) :
    checkAllowed (init (exportGen actorIds roleIds s)) a p = checkAllowed s a p := by
  have E := perm_roundtrip_partial s hI actorIds roleIds hna hnr hca hcr hbl
  exact checkAllowed_congr E.actors E.roles a p

end Sekai.Props.C12

/-! Witnesses of the partial round trip; in `Sekai.PermGenesis` because `./check C12` lists and audits the three theorems under
that namespace. -/
namespace Sekai.PermGenesis
open Sekai.Perm Sekai.Props.C07 Sekai.Props.C12

def exOps : List Op := [Op.createRole, .wlRole 1 7, .assign 3 1, .wlAcct 4 7]
def exSt : St := exOps.foldl Perm.apply {}

theorem exSt_actors (a : Nat) : exSt.actors a =
    if a = 4 then some { roles := [], perms := { wl := [7], bl := [] } }
    else if a = 3 then some { roles := [1], perms := {} } else none := rfl

theorem exSt_roleReg (r : Nat) : exSt.roleReg r = if r = 1 then some { wl := [7], bl := [] } else none := by
  -- role 1 is written twice, by `createRole` and by `wlRole`
  show (if r = 1 then _ else if r = 1 then _ else _) = _
  by_cases h : r = 1 <;> simp [h]

/-- `9` and `5` are ids without a record -/
example : Equiv (init (exportGen [4, 3, 9] [5, 1] exSt)) exSt :=
  perm_roundtrip_partial exSt (inv_reach exOps) [4, 3, 9] [5, 1] (by decide) (by decide)
    (fun a => by rw [exSt_actors]; by_cases h4 : a = 4 <;> by_cases h3 : a = 3 <;> simp [h4, h3])
    (fun r => by rw [exSt_roleReg]; by_cases h1 : r = 1 <;> simp [h1])
    (fun r ps => by
      rw [exSt_roleReg]
      by_cases h1 : r = 1
      · simp only [h1, if_true, Option.some.injEq]; exact fun h => h ▸ rfl
      · simp [h1])

/-- the hypothesis `hbl` cannot be dropped: the import drops role blacklists -/
theorem roundtrip_drops_role_blacklist :
    ∃ s : St, Inv s ∧ (∀ a, (s.actors a).isSome → a ∈ ([] : List Nat)) ∧ (∀ r, (s.roleReg r).isSome → r ∈ [1]) ∧
      ¬ Equiv (init (exportGen [] [1] s)) s := by
  refine ⟨[Op.createRole, .blRole 1 7].foldl Perm.apply {}, inv_reach _, ?_, ?_, ?_⟩
  · intro a h
    simp [Perm.apply, step, setRole, Perms.addBl] at h
  · intro r h
    by_cases h1 : r = 1
    · simp [h1]
    · simp [Perm.apply, step, setRole, Perms.addBl, h1] at h
  · intro h
    have := h.roles 1
    revert this
    decide

end Sekai.PermGenesis

namespace Sekai.Props.C12
open Sekai.Perm Sekai.PermGenesis

def expectedModules : List (String × List String × List String × List String) := [
  ("basket", ["KeyLastBasketId=[]byte(\"last_basket_id\")", "PrefixBasketBurnByTime=[]byte(\"basket_burn_by_time\")", "PrefixBasketByDenomKey=[]byte(\"basket_by_denom\")", "PrefixBasketKey=[]byte(\"basket_by_id\")", "PrefixBasketMintByTime=[]byte(\"basket_mint_by_time\")", "PrefixBasketSwapByTime=[]byte(\"basket_swap_by_time\")"], ["GetAllBaskets", "GetAllBurnAmounts", "GetAllMintAmounts", "GetAllSwapAmounts", "GetLastBasketId"], ["SetBasket", "SetBurnAmount", "SetLastBasketId", "SetMintAmount", "SetSwapAmount"]),
  ("collectives", ["PrefixCollectiveContributerKey=[]byte(\"collective_contributer\")", "PrefixCollectiveKey=[]byte(\"collective_by_name\")"], [], []),
  ("custody", ["CustodyBufferSizeKey=[]byte(\"custody_buffer_size\")", "CustodyTxSizeKey=[]byte(\"custody_tx_size\")", "PrefixKeyCustodyCustodians=\"custody_custodians_prefix_\"", "PrefixKeyCustodyLimits=\"custody_limits_prefix_\"", "PrefixKeyCustodyLimitsStatus=\"custody_limits_status_prefix_\"", "PrefixKeyCustodyPool=\"custody_pool_prefix_\"", "PrefixKeyCustodyRecord=\"custody_record_prefix_\"", "PrefixKeyCustodyVote=\"custody_approve_\"", "PrefixKeyCustodyWhiteList=\"custody_white_list_prefix_\""], [], []),
  ("distributor", ["FeesTreasuryKey=[]byte(\"fees_treasury\")", "KeyPeriodicSnapshot=[]byte(\"periodic_snapshot\")", "KeyYearStartSnapshot=[]byte(\"year_start_snapshot\")", "PrefixKeyValidatorVote=[]byte(\"validator_vote_prefix\")", "ProposerKey=[]byte(\"proposer_key\")", "SnapPeriodKey=[]byte(\"snap_period\")"], ["GetAllValidatorVotes", "GetFeesTreasury", "GetPeriodicSnapshot", "GetPreviousProposerConsAddr", "GetSnapPeriod", "GetYearStartSnapshot", "String"], ["SetFeesTreasury", "SetPeriodicSnapshot", "SetPreviousProposerConsAddr", "SetSnapPeriod", "SetValidatorVote", "SetYearStartSnapshot"]),
  ("ethereum", ["PrefixKeyRelay=\"relay_prefix_\""], [], []),
  ("evidence", ["KeyPrefixEvidence=[]byte{0x00}"], ["GetAllEvidence"], ["GetEvidence", "SetEvidence"]),
  ("feeprocessing", ["KeyExecutionStatus=[]byte(\"execution_status\")", "KeyFeePaymentHistory=[]byte(\"fee_payment_history\")"], [], []),
  ("genutil", [], [], []),
  ("gov", ["ActivePollPrefix=[]byte{0x08}", "ActiveProposalsPrefix=[]byte{0x03}", "CouncilorIdentityRegistryPrefix=[]byte{0x20}", "CouncilorsByMonikerKey=[]byte{0x22}", "CouncilorsKey=[]byte{0x21}", "DataRegistryPrefix=[]byte{0x40}", "EnactmentProposalsPrefix=[]byte{0x04}", "KeyLastIdRecordVerifyRequestId=[]byte(\"last_identity_record_verify_request_id\")", "KeyLastIdentityRecordId=[]byte(\"last_identity_record_id\")", "KeyPrefixExecutionFee=[]byte(\"execution_fee\")", "KeyPrefixIdRecordVerifyRequest=[]byte(\"identity_record_verify_request_prefix\")", "KeyPrefixIdRecordVerifyRequestByApprover=[]byte(\"identity_record_verify_request_by_approver_prefix\")", "KeyPrefixIdRecordVerifyRequestByRequester=[]byte(\"identity_record_verify_request_by_requester_prefix\")", "KeyPrefixIdentityRecord=[]byte(\"identity_record_prefix\")", "KeyPrefixIdentityRecordByAddress=[]byte(\"identity_record_by_address_prefix\")", "KeyPrefixNetworkProperties=[]byte(\"network_properties\")", "KeyPrefixProposalDuration=[]byte(\"proposal_duration\")", "NetworkActorsPrefix=[]byte{0x30}", "NextPollIDPrefix=[]byte{0x06}", "NextProposalIDPrefix=[]byte{0x00}", "NextRolePrefix=[]byte{0x50}", "PollPrefix=[]byte{0x05}", "PollVotesPrefix=[]byte{0x07}", "PoorNetworkMessagesPrefix=[]byte{0x41}", "ProposalsPrefix=[]byte{0x01}", "RoleActorPrefix=[]byte{0x32}", "RoleIdToInfo=[]byte{0x11}", "RolePermissionRegistry=[]byte{0x10}", "RoleSidToIdRegistry=[]byte{0x12}", "VotesPrefix=[]byte{0x02}", "WhitelistActorPrefix=[]byte{0x31}", "WhitelistRolePrefix=[]byte{0x33}"], ["AllDataRegistry", "GetAllIdRecordsVerifyRequests", "GetAllIdentityRecords", "GetAllProposalDurations", "GetAllRoles", "GetExecutionFees", "GetLastIdRecordVerifyRequestId", "GetLastIdentityRecordId", "GetNetworkActorFromIterator", "GetNetworkActorsIterator", "GetNetworkProperties", "GetNextProposalID", "GetNextRoleId", "GetPermissionsFromIterator", "GetPoorNetworkMessages", "GetProposals", "GetVotes", "IterateRoles"], ["AssignRoleToActor", "SaveNetworkActor", "SavePoorNetworkMessages", "SaveProposal", "SaveVote", "SetExecutionFee", "SetIdentityRecord", "SetIdentityRecordsVerifyRequest", "SetLastIdRecordVerifyRequestId", "SetLastIdentityRecordId", "SetNetworkProperties", "SetNextProposalID", "SetNextRoleId", "SetProposalDuration", "SetRole", "SetWhitelistAddressPermKey", "UpsertDataRegistryEntry", "WhitelistRolePermission"]),
  ("layer2", ["BridgeRegistrarHelperKey=[]byte(\"bridge_registrar_helper\")", "KeyPrefixDapp=[]byte(\"dapp_info\")", "PrefixBridgeAccountKey=[]byte(\"bridge_account_key\")", "PrefixBridgeTokenKey=[]byte(\"bridge_token_key\")", "PrefixDappLeaderDenouncementKey=[]byte(\"dapp_leader_denouncement_key\")", "PrefixDappOperatorCandidateKey=[]byte(\"dapp_operator_candidate_key\")", "PrefixDappOperatorKey=[]byte(\"dapp_operator_key\")", "PrefixDappSessionApprovalKey=[]byte(\"dapp_session_approval_key\")", "PrefixDappSessionKey=[]byte(\"dapp_session_key\")", "PrefixTokenInfoKey=[]byte(\"token_info\")", "PrefixUserDappBondKey=[]byte(\"dapp_user_bond\")", "PrefixXAMKey=[]byte(\"xam_key\")"], [], []),
  ("multistaking", ["KeyLastPoolId=[]byte{0x3}", "KeyLastUndelegationId=[]byte{0x4}", "KeyPrefixCompoundInfo=[]byte{0x7}", "KeyPrefixPoolDelegator=[]byte{0x5}", "KeyPrefixRewards=[]byte{0x6}", "KeyPrefixStakingPool=[]byte{0x1}", "KeyPrefixUndelegation=[]byte{0x2}"], ["GetAllDelegatorRewards", "GetAllStakingPools", "GetAllUndelegations"], ["SetDelegatorRewards", "SetStakingPool", "SetUndelegation"]),
  ("recovery", ["KeyPrefixRRTokenHolder=[]byte{0x07}", "KeyPrefixRewards=[]byte{0x06}", "RecoveryChallengeKeyPrefix=[]byte{0x01}", "RecoveryRecordKeyPrefix=[]byte{0x02}", "RecoveryTokenByDenomKeyPrefix=[]byte{0x03}", "RecoveryTokenKeyPrefix=[]byte{0x04}", "RotationHistoryKeyPrefix=[]byte{0x05}"], ["GetAllRRHolderRewards", "GetAllRecoveryRecords", "GetAllRecoveryTokens", "GetAllRotationHistory"], ["SetRRTokenHolderRewards", "SetRecoveryRecord", "SetRecoveryToken", "SetRotationHistory"]),
  ("slashing", ["AddrPubkeyRelationKeyPrefix=[]byte{0x03}", "KeyDowntimeInactiveDuration=[]byte(\"DowntimeInactiveDuration\")", "SlashedValidatorsByTimeKeyPrefix=[]byte{0x04}", "ValidatorMissedBlockBitArrayKeyPrefix=[]byte{0x02}", "ValidatorSigningInfoKeyPrefix=[]byte{0x01}"], ["IterateValidatorSigningInfos"], ["AddPubkey", "IterateValidators", "SetValidatorSigningInfo"]),
  ("spending", ["KeyPrefixClaimInfo=\"claim_info\"", "KeyPrefixSpendingPool=\"spending\""], ["GetAllClaimInfos", "GetAllSpendingPools"], ["SetClaimInfo", "SetSpendingPool"]),
  ("staking", ["LastValidatorPowerKey=[]byte{0x07}", "PendingValidatorQueue=[]byte{0x03}", "ReactivatingValidatorQueue=[]byte{0x05}", "RemovingValidatorQueue=[]byte{0x04}", "ValidatorsByConsAddressKey=[]byte{0x02}", "ValidatorsKey=[]byte{0x00}"], ["GetValidatorSet"], ["AddValidator", "AfterValidatorJoined"]),
  ("tokens", ["PrefixKeyTokenBlackWhite=[]byte(\"token_black_white\")", "PrefixKeyTokenInfo=[]byte(\"token_rate_registry\")"], ["GetAllTokenInfos", "GetTokenBlackWhites"], ["SetTokenBlackWhites", "UpsertTokenInfo"]),
  ("ubi", ["PrefixKeyUBIRecord=\"ubi_record_prefix\""], ["GetUBIRecords"], ["SetUBIRecord"]),
  ("upgrade", ["KeyCurrentPlan=[]byte{0x01}", "KeyNextPlan=[]byte{0x02}"], ["GetCurrentPlan", "GetNextPlan"], ["SaveCurrentPlan", "SaveNextPlan"])
]

/-- **which record kinds each module stores and what its genesis export / import touches**, as reviewed -/
theorem genesis_coverage_as_reviewed : Sekai.Gen.Genesis.modules = expectedModules := by rfl

section Presence
open Sekai.GenesisCov

theorem roundTrip_mem_iff (m : Mod) (s : Store) (kv : List Nat × List Nat) :
    kv ∈ roundTrip m s ↔ kv ∈ s ∧ predict m kv.1 = .kept := by
  simp [roundTrip]

theorem predict_eq_kept {m : Mod} {k : List Nat} :
    predict m k = .kept ↔ ∃ d, classify m k = some d ∧ d.1 ∈ m.writes := by
  unfold predict
  cases classify m k with
  | none => simp
  | some d => by_cases h : d.1 ∈ m.writes <;> simp [h]

/-- **a module store survives export + import unchanged (as far as presence goes) iff every record in it is of a
kind some InitGenesis writes** -/
theorem roundTrip_eq_iff (m : Mod) (s : Store) :
    roundTrip m s = s ↔ ∀ kv ∈ s, predict m kv.1 = .kept := by
  simp only [roundTrip, List.filter_eq_self, beq_iff_eq]

theorem survivor_kind_written (m : Mod) (s : Store) (k v : List Nat) (h : (k, v) ∈ roundTrip m s) :
    ∃ d, classify m k = some d ∧ d.1 ∈ m.writes :=
  predict_eq_kept.mp ((roundTrip_mem_iff m s (k, v)).mp h).2

/-- **every record of a kind no InitGenesis writes is gone after the import**, whatever the state -/
theorem unwritten_kind_lost (m : Mod) (s : Store) (k v : List Nat) (d : String × List Nat)
    (hc : classify m k = some d) (hw : d.1 ∉ m.writes) : (k, v) ∉ roundTrip m s := by
  intro h
  obtain ⟨d', hd', hw'⟩ := survivor_kind_written m s k v h
  rw [hc] at hd'
  cases hd'
  exact hw hw'

/-- **the record kinds of the current source that no InitGenesis writes** (regenerated from the typed call graph on
every run): each is a recorded C12 finding once a history populates it; a new entry here — a dropped import call, a
new record kind without genesis support — breaks this obligation -/
theorem lost_kinds_as_reviewed :
    Sekai.Driver.GenesisCov.mods.map (fun m => (m.name, lostKinds m)) =
    [("basket", []),
     ("collectives", ["PrefixCollectiveContributerKey", "PrefixCollectiveKey"]),
     ("custody", ["CustodyBufferSizeKey", "CustodyTxSizeKey", "PrefixKeyCustodyCustodians", "PrefixKeyCustodyLimits",
        "PrefixKeyCustodyLimitsStatus", "PrefixKeyCustodyPool", "PrefixKeyCustodyRecord", "PrefixKeyCustodyVote",
        "PrefixKeyCustodyWhiteList"]),
     ("distributor", ["ProposerKey"]),
     ("ethereum", ["PrefixKeyRelay"]),
     ("evidence", []),
     ("feeprocessing", ["KeyExecutionStatus", "KeyFeePaymentHistory"]),
     ("genutil", []),
     ("gov", ["ActivePollPrefix", "ActiveProposalsPrefix", "CouncilorIdentityRegistryPrefix", "CouncilorsByMonikerKey",
        "CouncilorsKey", "EnactmentProposalsPrefix", "NextPollIDPrefix", "PollPrefix", "PollVotesPrefix"]),
     ("layer2", ["BridgeRegistrarHelperKey", "KeyPrefixDapp", "PrefixBridgeAccountKey", "PrefixBridgeTokenKey",
        "PrefixDappLeaderDenouncementKey", "PrefixDappOperatorCandidateKey", "PrefixDappOperatorKey",
        "PrefixDappSessionApprovalKey", "PrefixDappSessionKey", "PrefixTokenInfoKey", "PrefixUserDappBondKey",
        "PrefixXAMKey"]),
     ("multistaking", ["KeyLastPoolId", "KeyLastUndelegationId", "KeyPrefixCompoundInfo", "KeyPrefixPoolDelegator"]),
     ("recovery", ["KeyPrefixRRTokenHolder"]),
     ("slashing", ["KeyDowntimeInactiveDuration", "SlashedValidatorsByTimeKeyPrefix", "ValidatorMissedBlockBitArrayKeyPrefix"]),
     ("spending", []),
     ("staking", ["LastValidatorPowerKey", "PendingValidatorQueue", "ReactivatingValidatorQueue", "RemovingValidatorQueue"]),
     ("tokens", []),
     ("ubi", []),
     ("upgrade", [])] := by decide +kernel

/-- kinds that are written at import without being read at export: they must be rebuilt from other records (indexes)
— the reviewed list -/
theorem rebuilt_kinds_as_reviewed :
    (Sekai.Driver.GenesisCov.mods.map (fun m => (m.name, rebuiltKinds m))).filter (fun x => !x.2.isEmpty) =
    [("basket", ["PrefixBasketByDenomKey"]),
     ("gov", ["KeyPrefixIdRecordVerifyRequestByApprover", "KeyPrefixIdRecordVerifyRequestByRequester",
        "KeyPrefixIdentityRecordByAddress", "RoleActorPrefix", "RoleSidToIdRegistry", "WhitelistActorPrefix",
        "WhitelistRolePrefix"]),
     ("recovery", ["RecoveryChallengeKeyPrefix", "RecoveryTokenByDenomKeyPrefix"]),
     ("slashing", ["AddrPubkeyRelationKeyPrefix"]),
     ("staking", ["ValidatorsByConsAddressKey"])] := by decide +kernel

/-- non-vacuity: a gov store with a proposal (kind ProposalsPrefix = 0x01, restored) and an active-queue entry
(ActiveProposalsPrefix = 0x03, not restored) -/
example :
    (Sekai.Driver.GenesisCov.mods.find? (fun m => m.name == "gov")).map
      (fun m => (roundTrip m [([1, 0, 0, 7], [42]), ([3, 0, 0, 7], [1])]).map (·.1)) = some [[1, 0, 0, 7]] := by
  decide +kernel
end Presence

/-- import order the round trip relies on: accounts and balances first, gov (identity registrar, permissions) before
staking, staking before slashing, genutil and multistaking -/
theorem init_order_as_modelled :
    Sekai.App.inOrder Sekai.Gen.App.initOrder ["authtypes.ModuleName", "banktypes.ModuleName", "govtypes.ModuleName",
      "stakingtypes.ModuleName", "slashingtypes.ModuleName"] = true ∧
    Sekai.App.before Sekai.Gen.App.initOrder "stakingtypes.ModuleName" "genutiltypes.ModuleName" = true ∧
    Sekai.App.before Sekai.Gen.App.initOrder "stakingtypes.ModuleName" "multistakingtypes.ModuleName" = true ∧
    Sekai.App.before Sekai.Gen.App.initOrder "tokenstypes.ModuleName" "baskettypes.ModuleName" = true := by decide +kernel

/-! ### Key spaces (table `Gen.Keys`)

Export walks every record kind by its prefix. If a prefix extended another, the walk over the shorter one would also pick up
(and try to decode) the records of the longer one. -/

theorem no_store_has_overlapping_prefixes :
    (Sekai.Gen.Keys.stores.filter fun m => !(Sekai.Keys.clashes m.2).isEmpty) = [] ∧ Sekai.Gen.Keys.unrecognised = [] := by
  have h : ∀ m ∈ Sekai.Gen.Keys.stores, m.2.Pairwise fun a b => Sekai.Keys.apart a.2 b.2 = true := by decide +kernel
  refine ⟨List.filter_eq_nil_iff.mpr fun m hm => ?_, rfl⟩
  simp [Sekai.Keys.clashes_eq_nil_of_pairwise_apart _ (h m hm)]

/-- the table covers the modules whose stores the round trip compares -/
theorem key_table_covers_modules :
    ["basket", "collectives", "custody", "distributor", "gov", "layer2", "multistaking", "recovery", "slashing", "spending",
     "staking", "ubi", "upgrade"].all (fun m => !(Sekai.Keys.rowsOf Sekai.Gen.Keys.stores m).isEmpty) = true := by
  decide +kernel

end Sekai.Props.C12
