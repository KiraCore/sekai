import SekaiProofs.Lemmas.MultiStakeClosed
import SekaiProofs.Lemmas.Dec
/-! The distributor (`Sekai.Model.Distr`): frame of `AllocateTokens` (vote records, window, height), the vote wipe of
`EndBlocker`, the fee loop, and what the proposer gets without vote records. What `IncreasePoolRewards` credits is in
`MultiStakeCredits`. -/
namespace Sekai.MultiStake
open Sekai AMap

theorem allocate_frame {s s' : St} {prev : Nat} (ha : allocate s prev = some s') :
    s'.votes = s.votes ∧ s'.snapPeriod = s.snapPeriod ∧ s'.height = s.height := by
  have hc : Closed fun s' : St => s'.votes = s.votes ∧ s'.snapPeriod = s.snapPeriod ∧ s'.height = s.height := by
    refine { congr := fun ⟨hv', hn', hh'⟩ _ _ _ _ hv hn hh => ⟨hv.trans hv', hn.trans hn', hh.trans hh'⟩,
             bank := fun h _ _ => h, delegate := fun h hd => ?_ }
    -- the result of `delegate` differs in bank, pools and delegator set only
    obtain ⟨_, _, _, _, _, _, rfl⟩ := delegate_some hd
    exact h
  exact hc.allocate ⟨rfl, rfl, rfl⟩ ha

theorem endBlock_votes_eq_nil {s s1 : St} {h t p : Nat} {c : List Nat} (hb : beginBlock s h t p c = some s1) :
    (endBlock s1).votes = [] := by
  obtain ⟨s1', hs1, rfl⟩ := beginBlock_some hb
  have hh : s1'.height = h := by
    rcases hs1 with rfl | ⟨prev, ha⟩
    · rfl
    · obtain ⟨_, _, hh⟩ := allocate_frame ha
      exact hh
  -- `BeginBlocker` keeps the records with `height + window > h`, `EndBlocker` at height `h` those with `height + window ≤ h`
  unfold endBlock
  show (List.filter _ (List.filter _ _)) = []
  rw [List.filter_filter, List.filter_eq_nil_iff]
  intro vh _
  simp only [hh]
  by_cases hc : vh.2 + s1'.snapPeriod ≤ h
  · simp [hc]
  · have : vh.2 + s1'.snapPeriod > h := by omega
    simp [this]

theorem power_of_no_votes {s : St} (h : s.votes = []) (v : Nat) : power s v = 0 := by
  unfold power; rw [h]; rfl

theorem feeRewards_cons (pw snap : Nat) (share : Dec.D) (d : Denom) (n : Nat) (r : Coins) :
    feeRewards pw snap share ((d, n) :: r) =
      ((if (feeCut n pw snap share).1 > 0 then (d, (feeCut n pw snap share).1.toNat) :: (feeRewards pw snap share r).1
        else (feeRewards pw snap share r).1),
       (if (feeCut n pw snap share).2 > 0 then (d, (feeCut n pw snap share).2.toNat) :: (feeRewards pw snap share r).2
        else (feeRewards pw snap share r).2)) := by rfl

theorem feeCut_zero (n snap : Nat) (share : Dec.D) : feeCut n 0 snap share = (0, 0) := by
  unfold feeCut
  simp only [Nat.mul_zero, Nat.zero_div, Int.natCast_zero]
  rw [Dec.roundMul_zero]; rfl

theorem feeRewards_zero (snap : Nat) (share : Dec.D) (fees : Coins) : feeRewards 0 snap share fees = ([], []) := by
  induction fees with
  | nil => rfl
  | cons x r ih =>
    obtain ⟨d, n⟩ := x
    rw [feeRewards_cons, ih, feeCut_zero]; rfl

theorem poolPart_zero (s0 : St) (p : Pool) (infl : Nat) : poolPart s0 p 0 infl [] [] = some ([], s0) := by
  unfold poolPart
  simp only [Nat.mul_zero, Nat.zero_div, Int.natCast_zero]
  rw [Dec.roundMul_zero]
  rfl

theorem payProposer_no_votes (s0 : St) (prev infl : Nat) (fees : Coins) : payProposer s0 prev 0 infl fees = some s0 := by
  unfold payProposer
  split
  · rfl
  · -- both reward lists are empty, the pool part hands the state back, and nothing is sent to the validator
    rw [feeRewards_zero]
    cases findPool s0 prev with
    | none => rfl
    | some p => dsimp only; rw [poolPart_zero]; rfl

theorem mintInflation_users {s s0 : St} {infl : Nat} (hm : mintInflation s infl = some s0) :
    s0.rewards = s.rewards ∧ ∀ (i : Nat) (d : Denom), s0.bal (.user i) d = s.bal (.user i) d := by
  rcases mintInflation_some hm with rfl | ⟨b, hb, rfl⟩
  · exact ⟨rfl, fun _ _ => rfl⟩
  · refine ⟨rfl, fun i d => ?_⟩
    -- from the mint account to the fee collector, minted into the mint account: a user's balance is read through both
    exact (Bank.send_bal_other hb (a := .user i) nofun nofun d).trans (Bank.mint_bal_other _ .mint _ (a := .user i) nofun d)

theorem allocate_without_votes {s s' : St} {prev : Nat} (hp : power s prev = 0) (ha : allocate s prev = some s') :
    s'.rewards = s.rewards ∧ ∀ (i : Nat) (d : Denom), s'.bal (.user i) d = s.bal (.user i) d := by
  rcases allocate_some ha with rfl | ⟨infl, s0, s3, fees, hs0, hs3, rfl⟩
  · exact ⟨rfl, fun _ _ => rfl⟩
  · rw [hp, payProposer_no_votes] at hs3
    cases hs3
    exact ⟨(mintInflation_users hs0).1, (mintInflation_users hs0).2⟩

end Sekai.MultiStake
