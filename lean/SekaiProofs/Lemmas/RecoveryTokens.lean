import SekaiProofs.Lemmas.Recovery
/-! The token-record invariant `TokInv` of the recovery module (C04): the bank supply of every recovery denomination equals the
recorded `RrSupply`, which is not zero, and the by-denom index and the token store agree. It is kept by every operation but the two
message shapes of the recorded findings (`GoodOp`; along a run: `GoodRun`). -/
namespace Sekai.Recovery

structure TokInv (S : State) : Prop where
  byAddr : ∀ a t, S.token a = some t → S.supply t.denom = t.rrSupply ∧ S.byDenom t.denom = some a ∧ t.rrSupply ≠ 0
  byDen : ∀ d a, S.byDenom d = some a → ∃ t, S.token a = some t ∧ t.denom = d

/-- the two message shapes under which the bookkeeping is known to break (recorded findings):
an issue whose denomination is already in circulation, a holder rotation onto an address that issued tokens itself -/
def GoodOp (S : State) : Op → Prop
  | .issue a => S.supply (rrDenom S a) = 0
  | .rotateHolder m => S.token m.recovery = none ∨ m.recovery = m.addr
  | _ => True

theorem TokInv.owner {S : State} (hi : TokInv S) {v a : Addr} {tok t : Token} (hv : S.token v = some tok) (ha : S.token a = some t)
    (e : t.denom = tok.denom) : a = v := by
  have := (hi.byAddr a t ha).2.1
  rw [e, (hi.byAddr v tok hv).2.1] at this
  exact (Option.some.inj this).symm

/-- `hv`: whatever `v` held was of denomination `dn`, so no index entry of another denomination is orphaned; `hfree`: no OTHER
address holds a record of `dn` -/
theorem TokInv.update {S S' : State} (hi : TokInv S) {v : Addr} {dn : Denom} {o : Option Token}
    (htok : ∀ a, S'.token a = if a = v then o else S.token a)
    (hbd : ∀ d, S'.byDenom d = if d = dn then o.map (fun _ => v) else S.byDenom d)
    (ho : ∀ T, o = some T → T.denom = dn ∧ S'.supply dn = T.rrSupply ∧ T.rrSupply ≠ 0)
    (hsup : ∀ d, d ≠ dn → S'.supply d = S.supply d)
    (hv : ∀ t, S.token v = some t → t.denom = dn)
    (hfree : ∀ a t, S.token a = some t → t.denom = dn → a = v) : TokInv S' := by
  constructor
  · intro a t hta
    rw [htok] at hta
    rw [hbd]
    by_cases h1 : a = v
    · rw [if_pos h1] at hta
      obtain ⟨e, hs, hz⟩ := ho t hta
      rw [e, if_pos rfl, hta, h1]
      exact ⟨hs, rfl, hz⟩
    · rw [if_neg h1] at hta
      have hne : t.denom ≠ dn := fun e => h1 (hfree a t hta e)
      rw [hsup _ hne, if_neg hne]
      exact hi.byAddr a t hta
  · intro d a hd
    rw [hbd] at hd
    rw [htok]
    by_cases h1 : d = dn
    · rw [if_pos h1] at hd
      cases ho' : o with
      | none => rw [ho'] at hd; cases hd
      | some T =>
        rw [ho'] at hd; cases hd
        exact ⟨T, if_pos rfl, (ho T ho').1.trans h1.symm⟩
    · rw [if_neg h1] at hd
      obtain ⟨t, q1, q2⟩ := hi.byDen d a hd
      have : a ≠ v := fun e => h1 (q2.symm.trans (hv t (e ▸ q1)))
      exact ⟨t, (if_neg this).trans q1, q2⟩

theorem TokInv.replace {S S' : State} (hi : TokInv S) {v : Addr} {tok : Token} {o : Option Token} (ht : S.token v = some tok)
    (htok : ∀ a, S'.token a = if a = v then o else S.token a)
    (hbd : ∀ d, S'.byDenom d = if d = tok.denom then o.map (fun _ => v) else S.byDenom d)
    (ho : ∀ T, o = some T → T.denom = tok.denom ∧ S'.supply tok.denom = T.rrSupply ∧ T.rrSupply ≠ 0)
    (hsup : ∀ d, d ≠ tok.denom → S'.supply d = S.supply d) : TokInv S' :=
  hi.update htok hbd ho hsup (fun t e => by rw [ht] at e; cases e; rfl) (fun _ _ => hi.owner ht)

theorem tokInv_step {S : State} (op : Op) (hi : TokInv S) (hg : GoodOp S op) : TokInv (step S op) := by
  refine step_cases hi fun S' hap => ?_
  cases op with
  | rotateHolder m =>
    obtain ⟨tok, R, c, rfl, hc⟩ := rotateByHolder_ok hap
    have ht := hc.token
    obtain ⟨r1, _, r3⟩ := hi.byAddr m.addr tok ht
    -- the record and its index entry are deleted at the old address …
    have h1 : TokInv { S with token := fun a => if a = m.addr then none else S.token a,
                              byDenom := fun d => if d = tok.denom then none else S.byDenom d } :=
      hi.replace (o := none) ht (htok := fun _ => rfl) (hbd := fun _ => rfl) (ho := nofun) (hsup := fun _ _ => rfl)
    -- … and written at the new one, which holds no record of its own then (`GoodOp`)
    refine h1.update (v := m.recovery) (dn := tok.denom) (o := some tok) (htok := fun _ => rfl) (hbd := fun d => ?hbd)
      (ho := fun T hT => by cases hT; exact ⟨rfl, r1, r3⟩) (hsup := fun _ _ => rfl) (hv := fun t e => ?hv)
      (hfree := fun a t e hd => ?hfree)
    case hbd =>
      dsimp only
      split <;> rfl
    case hv =>
      dsimp only at e
      split at e
      · cases e
      · rename_i hne
        rcases hg with hnone | hsame
        · rw [hnone] at e; cases e
        · exact absurd hsame hne
    case hfree =>
      dsimp only at e
      split at e
      · cases e
      · rename_i hne; exact absurd (hi.owner ht e hd) hne
  | issue b =>
    obtain ⟨S1, S3, rfl, hnone, _⟩ := issue_ok hap
    have hg' : S.supply (rrDenom S b) = 0 := hg
    refine hi.update (v := b) (dn := rrDenom S b) (o := some ⟨rrDenom S b, issueAmount, S.bond⟩) (htok := fun _ => rfl)
      (hbd := fun _ => rfl) (ho := ?ho) (hsup := fun d hd => if_neg hd) (hv := fun t ht => by rw [hnone] at ht; cases ht)
      (hfree := ?hfree)
    case ho =>
      intro T hT; cases hT
      exact ⟨rfl, by simp only [if_true, hg']; omega, (by decide : issueAmount ≠ 0)⟩
    case hfree =>
      intro a t hta e
      have := (hi.byAddr a t hta)
      rw [e, hg'] at this
      exact absurd this.1.symm this.2.2
  | burn b d amt =>
    obtain ⟨owner, tok, S1, S2, S3, rfl, hs⟩ := burn_ok hap
    have ht := hs.token
    obtain ⟨t0, q1, q2⟩ := hi.byDen d owner hs.byDenom
    rw [ht] at q1; cases q1
    obtain ⟨r1, _, r3⟩ := hi.byAddr owner tok ht
    by_cases h0 : tok.rrSupply - amt = 0
    · refine hi.replace (o := none) ht (htok := ?htok) (hbd := ?hbd) (ho := nofun) (hsup := fun d' hd => if_neg (q2 ▸ hd))
      case htok => intro a; simp only [h0, if_true]
      case hbd => intro d'; simp only [h0, if_true, Option.map_none]
    · refine hi.replace (o := some ⟨tok.denom, tok.rrSupply - amt, tok.underlying - redeemOf tok amt⟩) ht (htok := ?htok)
        (hbd := ?hbd) (ho := ?ho) (hsup := fun d' hd => if_neg (q2 ▸ hd))
      case htok => intro a; simp only [h0, if_false]
      case hbd => intro d'; simp only [h0, if_false, Option.map_some]
      case ho =>
        intro T hT; cases hT
        exact ⟨rfl, by simp only [q2, if_true, ← r1], h0⟩
  | allocate v amt =>
    rcases allocate_ok hap with ⟨_, hs⟩ | ⟨tok, S1, S2, rfl, ht, _⟩
    · obtain ⟨_, _, rfl⟩ := send_ok hs
      exact ⟨hi.byAddr, hi.byDen⟩
    · obtain ⟨r1, r2, r3⟩ := hi.byAddr v tok ht
      refine hi.replace (o := some ⟨tok.denom, tok.rrSupply, _⟩) ht (htok := fun _ => rfl) (hbd := fun _ => rfl) (ho := ?_)
        (hsup := fun _ _ => rfl)
      intro T hT; cases hT
      exact ⟨rfl, r1, r3⟩
  | _ =>
    -- the remaining operations write none of `token`, `byDenom`, `supply` (`apply_writes`), which is all `TokInv` reads
    have e : S' = _ := apply_writes hap
    rw [e]
    exact ⟨hi.byAddr, hi.byDen⟩

def GoodRun : State → List Op → Prop
  | _, [] => True
  | S, op :: rest => GoodOp S op ∧ GoodRun (step S op) rest

end Sekai.Recovery
