import Sekai.Base.Dec
/-! Rounding lemmas for the `LegacyDec` model `Sekai.Dec`. `chopRound_near` is the only place that unfolds `chopRound`: everything
else about banker's rounding (`chopRound_*`, `mul_ofInt`, `ofInt_mul`, `roundMul_*`, `quo_*`) follows from it without unfolding
`chopRound` again: linear arithmetic over the literal `P`, with core's `ediv` / `tdiv` lemmas for `quo`. The `truncInt_*` lemmas are
about truncation (`Int.tdiv`); `truncInt_quo_ofInt_le` truncates a rounded `quo`. -/
namespace Sekai.Dec

theorem P_pos : 0 < P := by decide
theorem P_ne : P ≠ 0 := by decide

/-- `chopRound x` is an integer nearest to `x / 10^18`, and the only one unless `x` lies exactly half-way between two -/
theorem chopRound_near (x : Int) :
    2 * x - P ≤ 2 * P * chopRound x ∧ 2 * P * chopRound x ≤ 2 * x + P ∧
    (x % P ≠ half → 2 * x - P < 2 * P * chopRound x ∧ 2 * P * chopRound x < 2 * x + P) := by
  unfold chopRound P half
  by_cases hx : x < 0 <;> simp only [hx, if_true, if_false] <;> omega

theorem chopRound_lower (x : Int) : 2 * x - P ≤ 2 * P * chopRound x := (chopRound_near x).1

theorem chopRound_upper (x : Int) : 2 * P * chopRound x ≤ 2 * x + P := (chopRound_near x).2.1

theorem chopRound_mul_P (y : Int) : chopRound (y * P) = y := by
  have := chopRound_near (y * P)
  unfold P at this ⊢
  omega

theorem chopRound_zero : chopRound 0 = 0 := by decide

theorem chopRound_nonneg {x : Int} (h : 0 ≤ x) : 0 ≤ chopRound x := by
  have := chopRound_lower x
  unfold P at this
  omega

theorem chopRound_le {x k : Int} (hk : x ≤ k * P) : chopRound x ≤ k := by
  have := chopRound_upper x
  unfold P at *
  omega

theorem chopRound_nonpos {x : Int} (hx : x ≤ 0) : chopRound x ≤ 0 :=
  chopRound_le (k := 0) (by omega)

theorem chopRound_nonneg_le (x : Int) (hx : 0 ≤ x) : chopRound x ≤ x / P + 1 := by
  have := chopRound_upper x
  unfold P at *
  omega

theorem chopRound_nonneg_ge (x : Int) (hx : 0 ≤ x) : x / P ≤ chopRound x := by
  have := chopRound_lower x
  unfold P at *
  omega

/-- the collectives: `calcPortion` of `d` and of `1 - d` -/
theorem chopRound_compl_near (b x : Int) :
    b - 1 ≤ chopRound x + chopRound (b * P - x) ∧ chopRound x + chopRound (b * P - x) ≤ b + 1 := by
  have h1 := chopRound_near x
  have h2 := chopRound_near (b * P - x)
  unfold P at h1 h2 ⊢
  omega

theorem chopRound_compl_exact (b x : Int) (hh : x % P ≠ half) : chopRound x + chopRound (b * P - x) = b := by
  have h1 := (chopRound_near x).2.2 hh
  have h2 := (chopRound_near (b * P - x)).2.2 (by unfold P half at *; omega)
  unfold P at h1 h2 ⊢
  omega

theorem mul_ofInt (r d : Int) : mul r (ofInt d) = r * d := by
  unfold mul ofInt
  rw [← Int.mul_assoc]
  exact chopRound_mul_P (r * d)

theorem ofInt_mul (a p : Int) : mul (ofInt a) p = a * p := by
  unfold mul ofInt
  rw [Int.mul_right_comm]
  exact chopRound_mul_P (a * p)

/-! `NewDecFromInt(n).Mul(c).RoundInt()` -/

theorem roundMul_eq (n c : Int) : roundInt (mul (ofInt n) c) = chopRound (n * c) := by
  rw [ofInt_mul]; rfl

theorem roundMul_nonneg {n c : Int} (hn : 0 ≤ n) (hc : 0 ≤ c) : 0 ≤ roundInt (mul (ofInt n) c) := by
  rw [roundMul_eq]; exact chopRound_nonneg (Int.mul_nonneg hn hc)

theorem roundMul_le {n c : Int} (hn : 0 ≤ n) (hc : c ≤ one) : roundInt (mul (ofInt n) c) ≤ n := by
  rw [roundMul_eq]; exact chopRound_le (Int.mul_le_mul_of_nonneg_left hc hn)

theorem roundMul_zero (c : Int) : roundInt (mul (ofInt 0) c) = 0 := by
  rw [roundMul_eq, Int.zero_mul, chopRound_zero]

/-! `TruncateInt`, `Quo` -/

theorem truncInt_bounds {x : Int} (hx : 0 ≤ x) : truncInt x * P ≤ x ∧ x < truncInt x * P + P := by
  unfold truncInt
  rw [Int.tdiv_eq_ediv_of_nonneg hx]
  unfold P
  omega

theorem truncInt_nonpos {x : Int} (hx : x ≤ 0) : truncInt x ≤ 0 := by
  unfold truncInt
  rw [show x = -(-x) by omega, Int.neg_tdiv, Int.tdiv_eq_ediv_of_nonneg (by omega)]
  unfold P
  omega

theorem truncInt_mul_P (k : Int) : truncInt (k * P) = k := Int.mul_tdiv_cancel k P_ne

theorem truncInt_mono {x y : Int} (hx : 0 ≤ x) (hxy : x ≤ y) : truncInt x ≤ truncInt y := by
  have := truncInt_bounds hx
  have := truncInt_bounds (x := y) (by omega)
  unfold P at *
  omega

theorem truncInt_quo_ofInt_le {x n : Int} (hx : 0 ≤ x) (hn : 0 < n) :
    truncInt (quo x (ofInt n)) ≤ x / (n * P) + 1 := by
  have hP := Int.le_of_lt P_pos
  have hy : 0 ≤ x * P / n := Int.ediv_nonneg (Int.mul_nonneg hx hP) (Int.le_of_lt hn)
  -- before rounding the quotient is ⌊x·10¹⁸ / n⌋, whose integer part is ⌊x / n⌋
  have e1 : Int.tdiv (x * P * P) (n * P) = x * P / n := by
    rw [Int.tdiv_eq_ediv_of_nonneg (Int.mul_nonneg (Int.mul_nonneg hx hP) hP), Int.mul_ediv_mul_of_pos_left _ _ P_pos]
  have e2 : x * P / n / P = x / n := by
    rw [Int.ediv_ediv_of_nonneg (Int.le_of_lt hn), Int.mul_comm n P, ← Int.ediv_ediv_of_nonneg hP, Int.mul_ediv_cancel _ P_ne]
  have hc := chopRound_nonneg_le _ hy
  rw [e2] at hc
  unfold truncInt quo ofInt
  rw [e1, Int.tdiv_eq_ediv_of_nonneg (chopRound_nonneg hy), ← Int.ediv_ediv_of_nonneg (Int.le_of_lt hn)]
  generalize chopRound (x * P / n) = c at *
  generalize x / n = q at *
  unfold P
  omega

theorem quo_mul_le {a b : Int} (ha : 0 ≤ a) (hb : 0 < b) : quo a b * b ≤ a * P + b := by
  unfold quo
  have hP := P_pos
  have hx : 0 ≤ a * P * P := Int.mul_nonneg (Int.mul_nonneg ha (by omega)) (by omega)
  rw [Int.tdiv_eq_ediv_of_nonneg hx]
  have hq : 0 ≤ a * P * P / b := Int.ediv_nonneg hx (by omega)
  have h1 := chopRound_nonneg_le _ hq
  have h2 : a * P * P / b * b ≤ a * P * P := Int.ediv_mul_le _ (by omega)
  have h3 : a * P * P / b / P * P ≤ a * P * P / b := Int.ediv_mul_le _ (by omega)
  generalize a * P * P / b = x at *
  generalize x / P = y at *
  -- y·P ≤ x and x·b ≤ a·P·P give y·b ≤ a·P; the rounding adds at most one b
  have h4 : y * P * b ≤ x * b := Int.mul_le_mul_of_nonneg_right h3 (by omega)
  have h5 : y * b * P ≤ a * P * P := by rw [Int.mul_right_comm]; omega
  have h6 : y * b ≤ a * P := Int.le_of_mul_le_mul_right h5 hP
  have h7 : chopRound x * b ≤ (y + 1) * b := Int.mul_le_mul_of_nonneg_right h1 (by omega)
  rw [Int.add_mul, Int.one_mul] at h7
  exact Int.le_trans h7 (Int.add_le_add_right h6 b)

theorem quo_nonneg {a b : Int} (ha : 0 ≤ a) (hb : 0 < b) : 0 ≤ quo a b := by
  unfold quo
  have hx : 0 ≤ a * P * P := Int.mul_nonneg (Int.mul_nonneg ha (Int.le_of_lt P_pos)) (Int.le_of_lt P_pos)
  rw [Int.tdiv_eq_ediv_of_nonneg hx]
  exact chopRound_nonneg (Int.ediv_nonneg hx (by omega))

theorem quo_nonpos {a b : Int} (ha : 0 ≤ a) (hb : b < 0) : quo a b ≤ 0 := by
  unfold quo
  apply chopRound_nonpos
  have hx : 0 ≤ a * P * P := Int.mul_nonneg (Int.mul_nonneg ha (Int.le_of_lt P_pos)) (Int.le_of_lt P_pos)
  rw [show b = -(-b) by omega, Int.tdiv_neg]
  have := Int.tdiv_nonneg (a := a * P * P) (b := -b) hx (by omega)
  omega

theorem truncInt_mul_one_sub_le {f x : Int} (hf : 0 ≤ f) (hx : 0 ≤ x) : truncInt (x * (one - f)) ≤ x := by
  have hP := P_pos
  by_cases hneg : x * (one - f) ≤ 0
  · have := truncInt_nonpos hneg; omega
  · have h1 : x * (one - f) ≤ x * P := Int.mul_le_mul_of_nonneg_left (by unfold one; omega) hx
    have := truncInt_mono (by omega) h1
    rw [truncInt_mul_P] at this
    exact this

end Sekai.Dec
