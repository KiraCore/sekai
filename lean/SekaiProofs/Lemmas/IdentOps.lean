import SekaiProofs.Lemmas.Ident
/-! The operations of the identity registrar. For every keeper function what a successful call did, as a trace through
its sub-calls with the guards on the way (`f_some`, a structure where the trace is long; for the loops one iteration,
`f_cons`, and `f_rel` for a relation that every iteration satisfies, with `Keeps` to make an invariant such a relation), and
the two frames (`RecFrame`, `ReqFrame`) through which "untouched" is read off a trace. Guards left out: the checks of
`regCheck` (only `regCheck_lower`), `validKey` in `regApply_cons`, `oldKeysKept` in `setKeysSingle_some`, the existence of the
record in `deleteLoop_cons`. Last: which fields
genesis export + import may write (`reimport_some`), and whole messages (`Applied`, `step_cases`). -/
namespace Sekai.Ident

/-! ## frames -/

/-- the RECORD side (`records`, `idx`, `lastRecordId`) is untouched: what the functions that write only requests and money
satisfy. `uniqueKeys` is in both frames because the uniqueness invariant reads it through either. -/
structure RecFrame (S S' : State) : Prop where
  records : S'.records = S.records
  idx : S'.idx = S.idx
  lastRecordId : S'.lastRecordId = S.lastRecordId
  uniqueKeys : S'.uniqueKeys = S.uniqueKeys

/-- the REQUEST side (`reqs`, both request indexes, `lastReqId`) and the money (`bal`, `escrow`) are untouched: what the
functions that write only records satisfy -/
structure ReqFrame (S S' : State) : Prop where
  reqs : S'.reqs = S.reqs
  byReq : S'.byReq = S.byReq
  byApp : S'.byApp = S.byApp
  lastReqId : S'.lastReqId = S.lastReqId
  escrow : S'.escrow = S.escrow
  bal : S'.bal = S.bal
  uniqueKeys : S'.uniqueKeys = S.uniqueKeys

theorem RecFrame.refl (S : State) : RecFrame S S := by constructor <;> rfl
theorem RecFrame.trans {A B C : State} (h1 : RecFrame A B) (h2 : RecFrame B C) : RecFrame A C :=
  ⟨h2.records.trans h1.records, h2.idx.trans h1.idx, h2.lastRecordId.trans h1.lastRecordId, h2.uniqueKeys.trans h1.uniqueKeys⟩
theorem ReqFrame.refl (S : State) : ReqFrame S S := by constructor <;> rfl
theorem ReqFrame.trans {A B C : State} (h1 : ReqFrame A B) (h2 : ReqFrame B C) : ReqFrame A C :=
  ⟨h2.reqs.trans h1.reqs, h2.byReq.trans h1.byReq, h2.byApp.trans h1.byApp, h2.lastReqId.trans h1.lastReqId,
   h2.escrow.trans h1.escrow, h2.bal.trans h1.bal, h2.uniqueKeys.trans h1.uniqueKeys⟩

theorem RecFrame.getRec {S S' : State} (h : RecFrame S S') (id : Nat) : getRec S' id = getRec S id :=
  getRec_congr h.records id
theorem ReqFrame.getReq {S S' : State} (h : ReqFrame S S') (id : Nat) : getReq S' id = getReq S id :=
  getReq_congr h.reqs id

theorem ite_none_some {α : Type} {c : Prop} [Decidable c] {x : Option α} {y : α}
    (h : (if c then none else x) = some y) : x = some y := (Option.ite_none_left_eq_some.mp h).2

theorem deleteReq_recFrame (S : State) (id : Nat) : RecFrame S (deleteReq S id) := by
  obtain ⟨_, _, e⟩ := deleteReq_eq S id
  rw [e]; constructor <;> rfl
theorem setReq_recFrame (S : State) (q : Request) : RecFrame S (setReq S q) := by constructor <;> rfl
theorem payTip_recFrame {S S1 : State} {q : Request} {to : Nat} (h : payTip S to q = some S1) : RecFrame S S1 := by
  obtain ⟨⟨_, _, rfl⟩, _⟩ := payTip_some h
  constructor <;> rfl

theorem putRecord_reqFrame (S : State) (r : Record) : ReqFrame S (putRecord S r) := by constructor <;> rfl
theorem delete_reqFrame (S : State) (d : Nat) : ReqFrame S (deleteRecordById S d) := by
  rw [deleteRecordById_eq]; constructor <;> rfl
theorem setRecord_reqFrame {S S' : State} {r : Record} (h : setRecord S r = some S') : ReqFrame S S' := by
  obtain ⟨_, _, rfl⟩ := setRecord_some h
  exact putRecord_reqFrame S r

/-! ## cancelling requests -/

theorem cancelReq_some {S S' : State} {a id : Nat} (h : cancelReq S a id = some S') :
    ∃ q S1, getReq S id = some q ∧ q.addr = a ∧ payTip S a q = some S1 ∧ S' = deleteReq S1 id := by
  revert h
  fun_cases cancelReq S a id <;> try (intro h; cases h; done)
  next q hq hne S1 hpay =>   -- the request exists, the caller is its requester, the pay-out went through
    intro h; cases h
    have hadr : a = q.addr := by simpa using hne
    exact ⟨q, S1, hq, hadr.symm, by rw [hadr]; exact hpay, rfl⟩

theorem cancelReq_recFrame {S S' : State} {a id : Nat} (h : cancelReq S a id = some S') : RecFrame S S' := by
  obtain ⟨q, S1, _, _, hpay, rfl⟩ := cancelReq_some h
  exact (payTip_recFrame hpay).trans (deleteReq_recFrame _ _)

/-- the request names one of `ids` (the test of `CancelInvalidIdentityRecordVerifyRequests`) -/
def touches (ids : List Nat) (q : Request) : Bool := q.recordIds.any (fun i => ids.contains i)

theorem touches_of_mem {ids : List Nat} {q : Request} {id : Nat} (h1 : id ∈ q.recordIds) (h2 : id ∈ ids) : touches ids q = true := by
  unfold touches
  simp only [List.any_eq_true]
  exact ⟨id, h1, by simpa using h2⟩

theorem cancelInvalidLoop_cons {a : Nat} {ids : List Nat} {rid : Nat} {rest : List Nat} {S S' : State}
    (h : cancelInvalidLoop a ids (rid :: rest) S = some S') :
    ∃ q S1, getReq S rid = some q ∧
      ((touches ids q = true ∧ cancelReq S a rid = some S1) ∨ (touches ids q = false ∧ S1 = S)) ∧
      cancelInvalidLoop a ids rest S1 = some S' := by
  unfold cancelInvalidLoop at h
  split at h
  · cases h
  · rename_i q hq
    split at h
    · rename_i ht   -- the request names one of `ids`: it is cancelled
      split at h
      · cases h
      · rename_i S1 hc
        exact ⟨q, S1, hq, Or.inl ⟨ht, hc⟩, h⟩
    · rename_i ht   -- it names none of them: it stays
      exact ⟨q, S, hq, Or.inr ⟨by simpa [touches] using ht, rfl⟩, h⟩

/-- predicate `P` is kept from `A` to `B`: the relation to give an `f_rel` lemma for an invariant -/
def Keeps (P : State → Prop) (A B : State) : Prop := P A → P B
theorem Keeps.refl {P : State → Prop} (S : State) : Keeps P S S := fun h => h
theorem Keeps.trans {P : State → Prop} {A B C : State} (f : Keeps P A B) (g : Keeps P B C) : Keeps P A C := fun h => g (f h)

theorem cancelInvalid_rel {R : State → State → Prop} (refl : ∀ S, R S S) (trans : ∀ {A B C}, R A B → R B C → R A C)
    {a : Nat} (one : ∀ {S S1 : State} {rid : Nat}, cancelReq S a rid = some S1 → R S S1)
    {ids : List Nat} {S S' : State} (h : cancelInvalid S a ids = some S') : R S S' := by
  unfold cancelInvalid at h
  generalize reqIdsOf S a = rids at h
  induction rids generalizing S with
  | nil => cases h; exact refl _
  | cons rid rest ih =>
    obtain ⟨q, S1, _, hc | hc, hr⟩ := cancelInvalidLoop_cons h
    · exact trans (one hc.2) (ih hr)
    · rw [hc.2] at hr; exact ih hr

theorem cancelInvalid_recFrame {S S' : State} {a : Nat} {ids : List Nat}
    (h : cancelInvalid S a ids = some S') : RecFrame S S' :=
  cancelInvalid_rel RecFrame.refl RecFrame.trans cancelReq_recFrame h

/-! ## `RegisterIdentityRecords` and the two claims -/

theorem regApply_cons {a : Nat} {i : Info} {rest : List Info} {S : State} {aff : List Nat} {out : State × List Nat}
    (h : regApply a (i :: rest) S aff = some out) :
    ∃ n id aff',
      -- no index entry: a fresh id, the counter moves
      (idxGetK S a i.key = 0 ∧ n = S.lastRecordId + 1 ∧ id = S.lastRecordId + 1 ∧ aff' = aff ∨
      -- overwrite of the id the index names; the id is affected if the value changes (or the record is missing)
       idxGetK S a i.key ≠ 0 ∧ n = S.lastRecordId ∧ id = idxGetK S a i.key ∧
         aff' = if (match getRec S id with | none => true | some r => r.value != i.value) then aff ++ [id] else aff) ∧
      uniqueOk S i.key i.value a = true ∧
      regApply a rest (putRecord { S with lastRecordId := n } ⟨id, a, i.key, i.value, S.now, []⟩) aff' = some out := by
  unfold regApply at h
  dsimp only at h
  split at h
  · rename_i h0   -- no index entry under this key
    split at h
    · cases h
    · rename_i S2 hs
      obtain ⟨_, hu, rfl⟩ := setRecord_some hs
      exact ⟨_, _, _, Or.inl ⟨by simpa using h0, rfl, rfl, rfl⟩, hu, h⟩
  · rename_i h0   -- the index names an id
    split at h
    · cases h
    · rename_i S2 hs
      obtain ⟨_, hu, rfl⟩ := setRecord_some hs
      exact ⟨_, _, _, Or.inr ⟨by simpa using h0, rfl, rfl, rfl⟩, hu, h⟩

theorem regApply_rel {R : State → State → Prop} (refl : ∀ S, R S S) (trans : ∀ {A B C}, R A B → R B C → R A C)
    {a : Nat} {infos : List Info}
    (one : ∀ {S : State} {i : Info} (n id : Nat), i ∈ infos → uniqueOk S i.key i.value a = true →
      R S (putRecord { S with lastRecordId := n } ⟨id, a, i.key, i.value, S.now, []⟩))
    {S S' : State} {aff aff' : List Nat} (h : regApply a infos S aff = some (S', aff')) : R S S' := by
  induction infos generalizing S aff with
  | nil => cases h; exact refl _
  | cons i rest ih =>
    obtain ⟨n, id, _, _, hu, hr⟩ := regApply_cons h
    exact trans (one n id List.mem_cons_self hu) (ih (fun n id hi => one n id (List.mem_cons_of_mem _ hi)) hr)

theorem regApply_reqFrame {a : Nat} {infos : List Info} {S S' : State} {aff aff' : List Nat}
    (h : regApply a infos S aff = some (S', aff')) : ReqFrame S S' :=
  regApply_rel ReqFrame.refl ReqFrame.trans (fun _ _ _ _ => by constructor <;> rfl) h

theorem registerRecords_some {S S' : State} {a : Nat} {infos : List Info} (h : registerRecords S a infos = some S') :
    ∃ infos' S1 aff, regCheck S a infos = some infos' ∧ regApply a infos' S [] = some (S1, aff) ∧
      cancelInvalid S1 a aff = some S' := by
  revert h
  fun_cases registerRecords S a infos <;> try (intro h; cases h; done)
  next infos' hc S1 aff ha => exact fun h => ⟨infos', S1, aff, hc, ha, h⟩   -- both loops ran; the result is the cancel loop's

theorem regCheck_lower {S : State} {a : Nat} {infos out : List Info}
    (h : regCheck S a infos = some out) : ∀ i ∈ out, lower i.key = i.key := by
  induction infos generalizing out with
  | nil => cases h; intro i hi; cases hi
  | cons i rest ih =>
    unfold regCheck at h
    -- valid key, the two length limits, the councilor clause, uniqueness: none of the five guards matters here
    have h := ite_none_some (ite_none_some (ite_none_some (ite_none_some (ite_none_some h))))
    cases hr : regCheck S a rest with
    | none => rw [hr] at h; cases h
    | some l =>
      rw [hr] at h
      cases h
      intro j hj
      rcases List.mem_cons.mp hj with e | hm
      · rw [e]; exact lower_idem _
      · exact ih hr j hm

theorem claimValidator_some {S S' : State} {a : Nat} {m : String} (hc : claimValidator S a m = some S') :
    S.permVal.contains a = true ∧ S.validators.contains a = false ∧
    (match addrsByKV S "moniker" (trimSpaces m) with | [b] => S.validators.contains b | _ => false) = false ∧
    registerRecords S a [⟨"moniker", trimSpaces m⟩] = some S' := by
  unfold claimValidator at hc
  obtain ⟨hperm, hc⟩ := Option.ite_none_left_eq_some.mp hc
  obtain ⟨hval, hc⟩ := Option.ite_none_left_eq_some.mp hc
  obtain ⟨htaken, hc⟩ := Option.ite_none_left_eq_some.mp hc
  exact ⟨by simpa using hperm, by simpa using hval, Bool.eq_false_iff.mpr htaken, hc⟩

theorem claimCouncilor_some {S S' : State} {a : Nat} {fs : List String} (hc : claimCouncilor S a fs = some S') :
    S.permCouncil.contains a = true ∧
    registerRecords { S with councilors := if S.councilors.contains a then S.councilors else a :: S.councilors } a
      (((councilorKeys.zip fs).filter (fun kv => kv.2 != "")).map (fun kv => (⟨kv.1, kv.2⟩ : Info))) = some S' := by
  unfold claimCouncilor at hc
  obtain ⟨hperm, hc⟩ := Option.ite_none_left_eq_some.mp hc
  exact ⟨by simpa using hperm, hc⟩

/-! ## `DeleteIdentityRecords` -/

theorem deleteLoop_cons {id : Nat} {rest : List Nat} {S S' : State} (h : deleteLoop (id :: rest) S = some S') :
    deleteLoop rest (deleteRecordById S id) = some S' := by
  unfold deleteLoop at h
  split at h
  · cases h
  · exact h   -- the record exists

theorem deleteLoop_rel {R : State → State → Prop} (refl : ∀ S, R S S) (trans : ∀ {A B C}, R A B → R B C → R A C)
    (one : ∀ (S : State) (id : Nat), R S (deleteRecordById S id))
    {ids : List Nat} {S S' : State} (h : deleteLoop ids S = some S') : R S S' := by
  induction ids generalizing S with
  | nil => cases h; exact refl _
  | cons id rest ih => exact trans (one S id) (ih (deleteLoop_cons h))

theorem deleteLoop_reqFrame {ids : List Nat} {S S' : State} (h : deleteLoop ids S = some S') : ReqFrame S S' :=
  deleteLoop_rel ReqFrame.refl ReqFrame.trans delete_reqFrame h

/-- the index entries `DeleteIdentityRecords` selects -/
def delSel (a : Nat) (keys : List String) (e : IdxEntry) : Bool :=
  e.addr == a && (keys.isEmpty || (keys.map lower).contains e.key)

theorem deleteRecords_some {S S' : State} {a : Nat} {keys : List String} (h : deleteRecords S a keys = some S') :
    keys.any (fun k => !validKey k || k == "moniker") = false ∧
    ∃ S2, deleteLoop ((S.idx.filter (delSel a keys)).map (·.id)) { S with idx := S.idx.filter (fun e => !delSel a keys e) } = some S2 ∧
      cancelInvalid S2 a ((S.idx.filter (delSel a keys)).map (·.id)) = some S' := by
  unfold deleteRecords at h
  split at h
  · cases h
  · rename_i hg   -- every key is valid and none is spelled `moniker`
    dsimp only at h
    split at h
    · cases h
    · rename_i S2 hl   -- the delete loop went through; the result is the cancel loop's
      exact ⟨by simpa using hg, S2, hl, h⟩

/-! ## requesting and handling a verification -/

theorem requestVerify_some {S S' : State} {a v : Nat} {ids : List Nat} {d n : Nat}
    (h : requestVerify S a v ids d n = some S') :
    (∀ i ∈ ids, ∃ e ∈ S.idx, e.addr = a ∧ e.id = i) ∧
    ∃ le, lastEditOf S ids 0 = some le ∧ minTipInt S ≤ (n : Int) ∧
      takeTip { setReq S ⟨S.lastReqId + 1, a, v, ids, d, n, le⟩ with lastReqId := S.lastReqId + 1 } a d n = some S' := by
  unfold requestVerify at h
  dsimp only at h
  split at h
  · cases h
  · rename_i hown   -- every named record is in the requester's index
    split at h
    · cases h
    · rename_i le hle   -- all of them exist
      obtain ⟨htip, h⟩ := Option.ite_none_left_eq_some.mp h
      exact ⟨by simpa using hown, le, hle, Int.not_lt.mp htip, h⟩

theorem requestVerify_recFrame {S S' : State} {a v : Nat} {ids : List Nat} {d n : Nat}
    (hr : requestVerify S a v ids d n = some S') : RecFrame S S' := by
  obtain ⟨_, le, _, _, h⟩ := requestVerify_some hr
  obtain ⟨⟨_, _, rfl⟩, _⟩ := takeTip_some h
  constructor <;> rfl

theorem approveLoop_cons {v id : Nat} {rest : List Nat} {S S' : State} (h : approveLoop v (id :: rest) S = some S') :
    ∃ r S1, getRec S id = some r ∧ (S1 = S ∨ setRecord S { r with verifiers := r.verifiers ++ [v] } = some S1) ∧
      approveLoop v rest S1 = some S' := by
  unfold approveLoop at h
  split at h
  · cases h
  · rename_i r hr
    split at h
    · exact ⟨r, S, hr, Or.inl rfl, h⟩   -- `v` is on the record already
    · split at h
      · cases h
      · rename_i S1 hs   -- `v` is appended
        exact ⟨r, S1, hr, Or.inr hs, h⟩

theorem approveLoop_rel {R : State → State → Prop} (refl : ∀ S, R S S) (trans : ∀ {A B C}, R A B → R B C → R A C)
    {v : Nat} {ids : List Nat}
    (one : ∀ {S S1 : State} {id : Nat} {r : Record}, id ∈ ids → getRec S id = some r →
      setRecord S { r with verifiers := r.verifiers ++ [v] } = some S1 → R S S1)
    {S S' : State} (h : approveLoop v ids S = some S') : R S S' := by
  induction ids generalizing S with
  | nil => cases h; exact refl _
  | cons id rest ih =>
    obtain ⟨r, S1, hr, rfl | hs, hrest⟩ := approveLoop_cons h
    · exact ih (fun hi => one (List.mem_cons_of_mem _ hi)) hrest
    · exact trans (one List.mem_cons_self hr hs) (ih (fun hi => one (List.mem_cons_of_mem _ hi)) hrest)

theorem approveLoop_reqFrame {v : Nat} {ids : List Nat} {S S' : State} (h : approveLoop v ids S = some S') : ReqFrame S S' :=
  approveLoop_rel ReqFrame.refl ReqFrame.trans (fun _ _ hs => setRecord_reqFrame hs) h

/-- `HandleIdentityRecordsVerifyRequest` went through; `fresh`: no named record was edited after the request -/
structure Handled (S : State) (v id : Nat) (yes : Bool) (q : Request) (S1 S2 : State) (fresh : Bool) (S' : State) : Prop where
  pending : getReq S id = some q
  verifier : q.verifier = v
  paid : payTip S v q = some S1
  dated : dateCheck S1 q.lastEdit q.recordIds = some fresh
  approved : (yes && fresh) = false ∧ S2 = S1 ∨ (yes && fresh) = true ∧ approveLoop v q.recordIds S1 = some S2
  state : S' = deleteReq S2 id

theorem handleVerify_some {S S' : State} {v id : Nat} {yes : Bool} (h : handleVerify S v id yes = some S') :
    ∃ q S1 S2 fresh, Handled S v id yes q S1 S2 fresh S' := by
  revert h
  fun_cases handleVerify S v id yes <;> try (intro h; cases h; done)
  next q hq hv S1 hpay fresh hd hno =>   -- answered no, or a record was edited after the request
    intro h; cases h
    exact ⟨q, S1, S1, fresh,
      { pending := hq, verifier := (by simpa using hv : v = q.verifier).symm, paid := hpay, dated := hd,
        approved := .inl ⟨by simpa only [Bool.not_eq_true'] using hno, rfl⟩, state := rfl }⟩
  next q hq hv S1 hpay fresh hd hyes S2 ha =>   -- approved: the approve loop ran
    intro h; cases h
    exact ⟨q, S1, S2, fresh,
      { pending := hq, verifier := (by simpa using hv : v = q.verifier).symm, paid := hpay, dated := hd,
        approved := .inr ⟨by simpa using hyes, ha⟩, state := rfl }⟩

/-! ## the unique-key list -/

theorem setKeysSingle_some {S S' : State} {new : String} (hs : setKeysSingle S new = some S') :
    noDupUnder ((splitKeys new).filter (fun k => !(splitKeys S.uniqueKeys).contains k)) S.records = true ∧
    validUniqueKeys new = true ∧ S' = { S with uniqueKeys := new } := by
  unfold setKeysSingle at hs
  obtain ⟨_, hs⟩ := Option.ite_none_left_eq_some.mp hs       -- every old key is kept
  obtain ⟨hnd, hs⟩ := Option.ite_none_left_eq_some.mp hs     -- no two records share key and value under a key that is new in the list
  obtain ⟨hv, hs⟩ := Option.ite_none_left_eq_some.mp hs      -- the new list is valid
  cases hs
  exact ⟨by simpa using hnd, by simpa using hv, rfl⟩

theorem setKeysWhole_some {S S' : State} {a : Nat} {new : String} (hs : setKeysWhole S a new = some S') :
    S.permProps.contains a = true ∧ validUniqueKeys new = true ∧ S' = { S with uniqueKeys := new } := by
  unfold setKeysWhole at hs
  obtain ⟨hperm, hs⟩ := Option.ite_none_left_eq_some.mp hs
  obtain ⟨hvalid, hs⟩ := Option.ite_none_left_eq_some.mp hs
  cases hs
  exact ⟨by simpa using hperm, by simpa using hvalid, rfl⟩

/-! ## `RotateRecoveryAddress` -/

/-- part 1 of `RotateRecoveryAddress` went through: the guards in the order of the code, and what was written. The theorems
of C16 read `state` only (that a rotation needs the proof is shown on the recovery model, `REC.rotate_by_secret_requires_proof`). -/
structure RotateChecked (S : State) (p o n : Nat) (ok : Bool) (S' : State) : Prop where
  fee : recoveryFee ≤ balGet S p 0
  secret : S.secrets.contains o = true
  proof : ok = true
  notRotatedTo : S.rotated.contains n = false
  oldAccount : S.accs.contains o = true
  newAccount : S.accs.contains n = false
  state : ∃ b c, S' = { S with bal := b, rotated := o :: S.rotated, accs := n :: S.accs, councilors := c }

theorem rotateChecks_some {S S' : State} {p o n : Nat} {ok : Bool} (h : rotateChecks S p o n ok = some S') :
    RotateChecked S p o n ok S' := by
  unfold rotateChecks at h
  obtain ⟨hfee, h⟩ := Option.ite_none_left_eq_some.mp h
  obtain ⟨hsecret, h⟩ := Option.ite_none_left_eq_some.mp h
  obtain ⟨hproof, h⟩ := Option.ite_none_left_eq_some.mp h
  obtain ⟨hrot, h⟩ := Option.ite_none_left_eq_some.mp h
  obtain ⟨hold, h⟩ := Option.ite_none_left_eq_some.mp h
  obtain ⟨hnew, h⟩ := Option.ite_none_left_eq_some.mp h
  -- reduce the projections of the nested `balSet`s first: left to unification, `(balSet …).rotated =?= S.rotated`
  -- compares the states before it projects, which is slow
  dsimp only [balSet] at hsecret hrot hold hnew h
  cases h
  exact { fee := Nat.not_lt.mp hfee, secret := by simpa using hsecret, proof := by simpa using hproof,
          notRotatedTo := by simpa using hrot, oldAccount := by simpa using hold, newAccount := by simpa using hnew,
          state := ⟨_, _, rfl⟩ }

theorem rotateChecks_recFrame {S S' : State} {p o n : Nat} {ok : Bool} (h : rotateChecks S p o n ok = some S') : RecFrame S S' := by
  obtain ⟨_, _, rfl⟩ := (rotateChecks_some h).state
  constructor <;> rfl

theorem moveRecords_cons {new : Nat} {r : Record} {rest : List Record} {S S' : State}
    (h : moveRecords new (r :: rest) S = some S') :
    ∃ S1, setRecord (deleteRecordById S r.id) { r with addr := new } = some S1 ∧ moveRecords new rest S1 = some S' := by
  unfold moveRecords at h
  split at h
  · cases h
  · rename_i S1 hs   -- deleted and set again under the new address
    exact ⟨S1, hs, h⟩

theorem moveRecords_rel {R : State → State → Prop} (refl : ∀ S, R S S) (trans : ∀ {A B C}, R A B → R B C → R A C)
    {new : Nat} {recs : List Record}
    (one : ∀ {S S1 : State} {r : Record}, r ∈ recs →
      setRecord (deleteRecordById S r.id) { r with addr := new } = some S1 → R S S1)
    {S S' : State} (h : moveRecords new recs S = some S') : R S S' := by
  induction recs generalizing S with
  | nil => cases h; exact refl _
  | cons r rest ih =>
    obtain ⟨S1, hs, hr⟩ := moveRecords_cons h
    exact trans (one List.mem_cons_self hs) (ih (fun hi => one (List.mem_cons_of_mem _ hi)) hr)

theorem moveRecords_reqFrame {new : Nat} {recs : List Record} {S S' : State} (h : moveRecords new recs S = some S') :
    ReqFrame S S' :=
  moveRecords_rel ReqFrame.refl ReqFrame.trans (fun _ hs => (delete_reqFrame _ _).trans (setRecord_reqFrame hs)) h

theorem moveReqs_recFrame (f : Request → Request) (qs : List Request) (S : State) : RecFrame S (moveReqs f qs S) := by
  induction qs generalizing S with
  | nil => exact RecFrame.refl _
  | cons q rest ih =>
    unfold moveReqs
    exact ((deleteReq_recFrame S q.id).trans (setReq_recFrame _ _)).trans (ih _)

theorem rotateTail_recFrame (f g : Request → Request) (qs1 qs2 : List Request) (S : State) (o n : Nat) :
    RecFrame S (rotatePerms (moveReqs g qs2 (moveReqs f qs1 S)) o n) :=
  ((moveReqs_recFrame f qs1 S).trans (moveReqs_recFrame g qs2 _)).trans (by constructor <;> rfl)

theorem collectRecs_spec {S : State} {ids : List Nat} {recs : List Record} (h : collectRecs S ids = some recs) :
    recs.map (·.id) = ids ∧ ∀ r ∈ recs, getRec S r.id = some r := by
  induction ids generalizing recs with
  | nil => cases h; exact ⟨rfl, fun r hr => by cases hr⟩
  | cons id rest ih =>
    unfold collectRecs at h
    split at h
    · cases h
    · rename_i r0 hr0   -- the record exists
      cases hc : collectRecs S rest with
      | none => rw [hc] at h; cases h
      | some l =>
        rw [hc] at h
        cases h
        obtain ⟨i1, g1⟩ := ih hc
        refine ⟨by rw [List.map_cons, i1, (getRec_mem hr0).2], fun r hr => ?_⟩
        rcases List.mem_cons.mp hr with e | hm
        · rw [e, (getRec_mem hr0).2]; exact hr0
        · exact g1 r hm

theorem collectReqs_get {S : State} {ids : List Nat} {qs : List Request} (h : collectReqs S ids = some qs) :
    ∀ q ∈ qs, getReq S q.id = some q := by
  induction ids generalizing qs with
  | nil => cases h; intro q hq; cases hq
  | cons id rest ih =>
    unfold collectReqs at h
    split at h
    · cases h
    · rename_i q0 hq0   -- the request exists
      cases hc : collectReqs S rest with
      | none => rw [hc] at h; cases h
      | some l =>
        rw [hc] at h
        cases h
        intro q hq
        rcases List.mem_cons.mp hq with e | hm
        · rw [e, (getReq_mem hq0).2]; exact hq0
        · exact ih hc q hm

/-- `RotateRecoveryAddress` went through, step by step in the order of the code -/
structure Rotated (S : State) (p o n : Nat) (ok : Bool) (S1 : State) (recs : List Record) (S3 : State)
    (qs1 qs2 : List Request) (S' : State) : Prop where
  checks : rotateChecks S p o n ok = some S1
  collected : collectRecs S1 (idsOf S1 o) = some recs
  moved : moveRecords n recs S1 = some S3
  byRequester : collectReqs S3 (reqIdsOf S3 o) = some qs1
  byApprover : collectReqs (moveReqs (fun q => { q with addr := n }) qs1 S3)
    (appIdsOf (moveReqs (fun q => { q with addr := n }) qs1 S3) o) = some qs2
  state : S' = rotatePerms (moveReqs (fun q => { q with verifier := n }) qs2 (moveReqs (fun q => { q with addr := n }) qs1 S3)) o n

theorem rotate_some {S S' : State} {p o n : Nat} {ok : Bool} (h : rotate S p o n ok = some S') :
    ∃ S1 recs S3 qs1 qs2, Rotated S p o n ok S1 recs S3 qs1 qs2 S' := by
  revert h
  fun_cases rotate S p o n ok <;> try (intro h; cases h; done)
  next S1 h1 S2 h2 =>   -- the checks passed and the registry part went through
    intro h; cases h
    revert h2
    fun_cases rotateRegistry S1 o n <;> try (intro h; cases h; done)
    next recs hrecs S3 hmv qs1 hq1 _ qs2 hq2 =>   -- records collected and moved, both request snapshots collected
      intro h; cases h
      exact ⟨S1, recs, S3, qs1, qs2, h1, hrecs, hmv, hq1, hq2, rfl⟩

/-! ## genesis export + import -/

theorem importRecords_some {rs : List Record} {S S' : State} (h : importRecords rs S = some S') :
    ∃ recs ix, S' = { S with records := recs, idx := ix } := by
  induction rs generalizing S with
  | nil => cases h; exact ⟨_, _, rfl⟩
  | cons r rs ih =>
    unfold importRecords at h
    split at h
    · cases h
    · rename_i S1 hs   -- `SetIdentityRecord` did not panic
      obtain ⟨_, _, rfl⟩ := setRecord_some hs
      obtain ⟨recs, ix, rfl⟩ := ih h
      exact ⟨recs, ix, rfl⟩

theorem foldl_setReq_eq (qs : List Request) (S : State) :
    ∃ rq br ba, qs.foldl setReq S = { S with reqs := rq, byReq := br, byApp := ba } := by
  induction qs generalizing S with
  | nil => exact ⟨_, _, _, rfl⟩
  | cons q qs ih =>
    obtain ⟨rq, br, ba, e⟩ := ih (setReq S q)
    exact ⟨rq, br, ba, e⟩

theorem reimport_some {S S' : State} (h : reimport S = some S') :
    ∃ recs ix rq br ba,
      S' = { S with records := recs, idx := ix, reqs := rq, byReq := br, byApp := ba, councilors := [] } := by
  unfold reimport at h
  dsimp only at h
  split at h
  · cases h
  · rename_i S1 h1   -- the records went in; the requests cannot fail
    cases h
    obtain ⟨recs, ix, rfl⟩ := importRecords_some h1
    obtain ⟨rq, br, ba, e⟩ := foldl_setReq_eq (sortBy (·.id) S.reqs) { S with records := recs, idx := ix, reqs := [], byReq := [], byApp := [], councilors := [] }
    exact ⟨recs, ix, rq, br, ba, e⟩

/-! ## whole messages -/

/-- a successful message at keeper level: which keeper function ran, on which state (ValidateBasic and the claims' own
checks stripped). `register`: `MsgRegisterIdentityRecords`, `ClaimValidator` and `ClaimCouncilor`, which has saved the
councilor record by then (`c`). `param`: the writes that no check of the registrar guards - `MsgSetNetworkProperties`,
the minimum tip, the clock (each of the three fields is the old value unless `o` is the message that writes it). These two
constructors leave `o` free (three messages share each), so `Applied` serves statements
about EVERY `o`; for one concrete message invert `apply` directly (`ite_none_some ha`, as `C16.tip_paid_once_handle` does). -/
inductive Applied (S : State) : Op → State → Prop
  | register {o : Op} (c : List Nat) {a : Nat} {infos : List Info} {S' : State} (hs : o.signer = some a)
      (h : registerRecords { S with councilors := c } a infos = some S') : Applied S o S'
  | delete {a : Nat} {keys : List String} {S' : State} (h : deleteRecords S a keys = some S') : Applied S (.delete a keys) S'
  | request {a v : Nat} {ids : List Nat} {d n : Nat} {S' : State} (h : requestVerify S a v ids d n = some S') :
      Applied S (.request a v ids d n) S'
  | handle {v id : Nat} {yes : Bool} {S' : State} (h : handleVerify S v id yes = some S') : Applied S (.handle v id yes) S'
  | cancel {a id : Nat} {S' : State} (h : cancelReq S a id = some S') : Applied S (.cancel a id) S'
  | setKeysSingle {new : String} {S' : State} (h : setKeysSingle S new = some S') : Applied S (.setKeysSingle new) S'
  | param {o : Op} {k : String} {m t : Nat} (hk : o.isSetKeysWhole = false → k = S.uniqueKeys)
      (hm : (∀ n, o ≠ .setMinTip n) → m = S.minTip) (ht : (∀ n, o ≠ .time n) → t = S.now) :
      Applied S o { S with uniqueKeys := k, minTip := m, now := t }
  | rotate {p old new : Nat} {ok : Bool} {S' : State} (h : rotate S p old new ok = some S') : Applied S (.rotate p old new ok) S'

theorem apply_applied {S S' : State} {o : Op} (ha : apply S o = some S') : Applied S o S' := by
  cases o with
  | register a infos => exact .register S.councilors rfl (ite_none_some ha)
  | delete a keys => exact .delete ha
  | request a v ids d n => exact .request (ite_none_some ha)
  | handle v id yes => exact .handle (ite_none_some ha)
  | cancel a id => exact .cancel (ite_none_some ha)
  | claimVal a m => obtain ⟨_, _, _, hr⟩ := claimValidator_some ha; exact .register S.councilors rfl hr
  | claimCouncil a fs => exact .register _ rfl (claimCouncilor_some ha).2
  | setKeysSingle new => exact .setKeysSingle ha
  | setKeysWhole s new => obtain ⟨_, _, rfl⟩ := setKeysWhole_some ha; exact .param (m := S.minTip) (t := S.now) nofun (fun _ => rfl) (fun _ => rfl)
  | setMinTip n => cases ha; exact .param (k := S.uniqueKeys) (t := S.now) (fun _ => rfl) (fun h => absurd rfl (h n)) (fun _ => rfl)
  | time t => cases ha; exact .param (k := S.uniqueKeys) (m := S.minTip) (fun _ => rfl) (fun _ => rfl) (fun h => absurd rfl (h t))
  | rotate p o n ok => exact .rotate ha

theorem apply_eq_step_of_isSome {S : State} {o : Op} (h : (apply S o).isSome = true) : apply S o = some (step S o) := by
  unfold step
  cases ha : apply S o with
  | none => rw [ha] at h; cases h
  | some S' => rfl

theorem step_cases {P : State → Prop} {S : State} {o : Op} (h0 : P S) (h : ∀ S', apply S o = some S' → P S') :
    P (step S o) := by
  unfold step
  split
  · rename_i S' ha; exact h S' ha
  · exact h0

theorem run_append (S : State) (ops1 ops2 : List Op) : run S (ops1 ++ ops2) = run (run S ops1) ops2 :=
  List.foldl_append

end Sekai.Ident
