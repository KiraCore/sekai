import Sekai.Model.Custody
/-! The custody decorator, stage by stage (`keyCheck`, `anteSwitch`, `bankGuard`, `limitCalc`, `anteBank`, `anteMsg`,
`anteAll`): the verdict of `keyCheck` and, case by case, of the `switch`; for the later stages what one that lets a message
through has checked, and the one thing it may have written (`StatusOnly`). -/
namespace Sekai.Custody

/-- what the decorator may do to the state: rewrite limit-status records that EXIST. The second half, no record is created, is
what `bankSend_rejected` and `C17.status_never_created` rest on. -/
def StatusOnly (s s1 : State) : Prop := ∃ f, s1 = { s with status := f } ∧ ∀ a, s.status a = none → f a = none

theorem StatusOnly.refl (s : State) : StatusOnly s s := ⟨s.status, rfl, fun _ h => h⟩

theorem StatusOnly.eq {s s1 : State} (h : StatusOnly s s1) : s1 = { s with status := s1.status } := by
  obtain ⟨f, rfl, _⟩ := h
  rfl

theorem StatusOnly.none {s s1 : State} (h : StatusOnly s s1) {a : Addr} (ha : s.status a = none) : s1.status a = none := by
  obtain ⟨f, rfl, hf⟩ := h
  exact hf a ha

theorem StatusOnly.trans {a b c : State} (h1 : StatusOnly a b) (h2 : StatusOnly b c) : StatusOnly a c := by
  obtain ⟨f, rfl, hf⟩ := h1
  obtain ⟨g, rfl, hg⟩ := h2
  exact ⟨g, rfl, fun x h => hg x (hf x h)⟩

theorem keyCheck_eq_ok (st : Settings) (k : KeyArgs) :
    keyCheck st k = .ok () ↔ (k.target = .empty ∨ k.target = st.next) ∧ keyHash k.old = st.key := by
  unfold keyCheck
  split
  · rename_i h; simp [h.1, h.2]
  · rename_i h
    rw [Decidable.not_and_iff_not_or_not, Decidable.not_not, Decidable.not_not] at h
    split
    · rename_i h2; simp [h2]
    · rename_i h2; simp [h, Decidable.not_not.1 h2]

theorem anteSwitch_unguarded {s : State} {m : Msg}
    (h : s.settings m.signer = none ∨ ∃ st, s.settings m.signer = some st ∧ st.enabled = false) :
    anteSwitch s m = .ok () := by
  unfold anteSwitch
  rcases h with h | ⟨st, h, he⟩
  · rw [h]
  · rw [h]; simp only [he]; rfl

theorem anteSwitch_checked {s : State} {m : Msg} {st : Settings} {k : KeyArgs} (hs : s.settings m.signer = some st)
    (hen : st.enabled = true) (hk : m.keyArgsChecked = some k) : anteSwitch s m = keyCheck st k := by
  unfold anteSwitch
  rw [hs]; simp only [hen, hk]; rfl

theorem anteSwitch_clash {s : State} {m : Msg} {st : Settings} (hs : s.settings m.signer = some st)
    (hen : st.enabled = true) (hc : m.typeClash = true) : anteSwitch s m = .error .invType := by
  have hk : m.keyArgsChecked = none := by cases m <;> first | rfl | cases hc
  unfold anteSwitch
  rw [hs]; simp only [hen, hk, hc]; rfl

theorem anteSwitch_unchecked {s : State} {m : Msg} (hk : m.keyArgsChecked = none) (hc : m.typeClash = false)
    (hns : ∀ a to amt pw rw h, m ≠ .send a to amt pw rw h) : anteSwitch s m = .ok () := by
  unfold anteSwitch
  split
  · rfl                                   -- no custody record
  · -- `simp` takes the last arm of `match m`: its side condition, no `send`, is `hns`, which it finds in the context;
    -- both branches of "custody enabled" are then `.ok ()`
    simp only [hk, hc, Bool.false_eq_true, ↓reduceIte, ite_self]

theorem anteSwitch_statusOnly {s s1 : State} (h : StatusOnly s s1) (m : Msg) : anteSwitch s1 m = anteSwitch s m := by
  obtain ⟨f, rfl, _⟩ := h
  rfl

theorem bankGuard_ok {s : State} {st : Settings} {a to : Addr} (h : bankGuard s st a to = .ok ()) :
    (st.enabled = true → s.custodians a = some []) ∧
    (st.useWhiteList = true → ∀ wl, s.whitelist a = some wl → aget wl to = some true) := by
  unfold bankGuard at h
  split at h
  · cases h                               -- the custodians test failed
  · rename_i hc                           -- it passed (`hc`); `h` is the whitelist test
    constructor
    · intro hen
      rw [if_pos hen] at hc
      split at hc
      · cases hc                          -- no custodian record: panic
      · rename_i cs hcs
        cases cs with
        | nil => exact hcs
        | cons x t => simp at hc
    · intro hwl wl hw
      rw [if_pos hwl, hw] at h
      exact Classical.byContradiction fun hn => by simp only [if_neg hn] at h; cases h

/-- the `UseLimits` block writes into the signer's status record, which has to exist -/
theorem limitCalc_needs_status {now : Int} {s : State} {a : Addr} {amt : Coins} {l : List (Denom × Status)}
    (h : limitCalc now s a amt = .ok l) : s.status a ≠ none := by
  intro hst
  unfold limitCalc at h
  split at h
  · cases h                               -- no coins
  · simp only [hst] at h                  -- on a missing record every arm is an error
    split at h <;> cases h

theorem anteBank_ok {now : Int} {s s1 : State} {a to : Addr} {amt : Coins} (h : anteBank now s a to amt = .ok s1) :
    StatusOnly s s1 ∧ ∀ st, s.settings a = some st →
      bankGuard s st a to = .ok () ∧ (st.useLimits = true → s.status a ≠ none) := by
  revert h
  unfold anteBank
  fun_cases anteBankCalc now s a to amt <;> try (intro h; cases h; done)
  next hs =>                              -- no custody record: nothing is checked
    intro h; cases h
    exact ⟨.refl s, fun st e => by rw [hs] at e; cases e⟩
  next st hs hg hl =>                     -- the guard passed, limits off
    intro h; cases h
    exact ⟨.refl s, fun st' e => by rw [hs] at e; cases e; exact ⟨hg, fun h => by rw [h] at hl; cases hl⟩⟩
  next st hs hg _ l hlc =>                -- the guard passed, limits on: the new status record `l` is stored
    intro h; cases h
    have hst := limitCalc_needs_status hlc
    refine ⟨⟨_, rfl, fun b hb => ?_⟩, fun st' e => by rw [hs] at e; cases e; exact ⟨hg, fun _ => hst⟩⟩
    -- the record written is the signer's, which exists; `b` has none
    exact (if_neg fun e : b = a => hst (e ▸ hb)).trans hb

theorem anteMsg_ok {now : Int} {s s1 : State} {m : Msg} (h : anteMsg now s m = .ok s1) :
    anteSwitch s m = .ok () ∧ StatusOnly s s1 ∧
    ∀ a to amt, m = .bankSend a to amt → anteBank now s a to amt = .ok s1 := by
  revert h
  fun_cases anteMsg now s m <;> try (intro h; cases h; done)
  next hsw =>                             -- a bank send: the bank branch runs
    intro h
    exact ⟨hsw, (anteBank_ok h).1, fun a to amt e => by cases e; exact h⟩
  next hsw hm =>                          -- any other message: the state stays
    intro h; cases h
    exact ⟨hsw, .refl s, fun a to amt e => (hm a to amt e).elim⟩

theorem anteAll_ok {now : Int} {msgs : List Msg} {s s' : State} (h : anteAll now s msgs = .ok s') :
    StatusOnly s s' ∧ ∀ m ∈ msgs, ∃ s1 s2, StatusOnly s s1 ∧ anteMsg now s1 m = .ok s2 := by
  induction msgs generalizing s with
  | nil => simp only [anteAll] at h; cases h; exact ⟨.refl _, fun _ hm => nomatch hm⟩
  | cons x t ih =>
    simp only [anteAll] at h
    split at h
    · cases h                             -- the decorator rejects `x`
    · rename_i s2 h2                      -- `x` passes and leaves `s2`; the rest is examined there
      obtain ⟨ht, hmem⟩ := ih h
      obtain ⟨-, h12, -⟩ := anteMsg_ok h2
      refine ⟨h12.trans ht, fun m hm => ?_⟩
      cases hm with
      | head => exact ⟨s, s2, .refl s, h2⟩
      | tail _ hm' =>
        obtain ⟨s1, s3, h1, h3⟩ := hmem m hm'
        exact ⟨s1, s3, h12.trans h1, h3⟩

end Sekai.Custody
