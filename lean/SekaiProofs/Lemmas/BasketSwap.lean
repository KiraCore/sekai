import SekaiProofs.Lemmas.BasketBank
import SekaiProofs.Lemmas.BasketTokens
/-! Swaps: the arithmetic of a quote and of the payout loop, the closed form of a successful `swapPair` / `swap`, what the
pair loop does to the books and which checks it has made, and the coins a successful swap has moved. -/

namespace Sekai.Lemmas.Basket
open Sekai Sekai.Basket

/-- `Dec(a).Mul(w)` is written as the exact `a * w` -/
structure QuoteOk (fee : Dec.D) (ts : List Token) (inC : Coin) (outD : Denom) (q : Quote) (ti to : Token) : Prop where
  tokIn : lookupLast inC.denom ts = some ti
  tokOut : lookupLast outD ts = some to
  weight_ne : to.weight ≠ 0
  swapValue : q.swapValue = Dec.truncInt (inC.amount * ti.weight)
  swapAmount : q.swapAmount = Dec.truncInt (inC.amount * (Dec.one - fee))
  fee : q.fee = inC.amount - q.swapAmount
  out : q.out = Dec.truncInt (Dec.quo (q.swapAmount * ti.weight) to.weight)

theorem quote_some {fee : Dec.D} {ts : List Token} {inC : Coin} {outD : Denom} {q : Quote}
    (h : quote fee ts inC outD = some q) : ∃ ti to, QuoteOk fee ts inC outD q ti to := by
  revert h
  fun_cases quote fee ts inC outD <;> try (intro h; cases h; done)
  next ti hti to hto hw sa =>   -- both denoms are tokens of the basket, the out weight is not 0
    intro e; cases e
    refine ⟨ti, to, { tokIn := hti, tokOut := hto, weight_ne := hw, swapValue := ?_, swapAmount := ?_, fee := rfl, out := ?_ }⟩ <;>
      simp only [sa, Dec.ofInt_mul]

/-- the `+ wo` is one unit of 10⁻¹⁸ of the out token: `Quo` rounds half-even -/
theorem quote_out_value_le (sa wi wo : Int) (hsa : 0 ≤ sa) (hwi : 0 ≤ wi) (hwo : 0 < wo) :
    Dec.truncInt (Dec.quo (sa * wi) wo) * wo * Dec.P ≤ sa * wi * Dec.P + wo := by
  have ha : 0 ≤ sa * wi := Int.mul_nonneg hsa hwi
  have h1 := Dec.quo_mul_le ha hwo
  have h3 := (Dec.truncInt_bounds (Dec.quo_nonneg ha hwo)).1
  have h4 : Dec.truncInt (Dec.quo (sa * wi) wo) * Dec.P * wo ≤ Dec.quo (sa * wi) wo * wo :=
    Int.mul_le_mul_of_nonneg_right h3 (by omega)
  rw [Int.mul_right_comm]
  exact Int.le_trans h4 h1

theorem slippageFee_nonneg {m : Int} {ts : List Token} {old slip : Int}
    (h : slippageFee m ts old = some slip) : 0 ≤ slip := by
  revert h
  fun_cases slippageFee m ts old <;> try (intro h; cases h; done)
  next => intro e; cases e; exact Int.le_refl 0                   -- the disbalance fell: no fee
  next dis _ diff h1 h2 =>                                          -- it rose by less than the minimum: the minimum
    intro e; cases e
    exact Int.le_of_lt (Int.lt_of_le_of_lt (Int.not_lt.mp h1) h2)
  next dis _ diff h1 h2 =>                                          -- otherwise: the rise itself
    intro e
    exact Option.some.inj e ▸ Int.not_lt.mp h1

theorem finalOuts_spec {slip : Int} {outs fin0 : Coins} (h : finalOuts slip outs = some fin0)
    (hs : 0 ≤ slip) (hp : AllPos outs) (d : Denom) :
    0 ≤ amountOf fin0 d ∧ amountOf fin0 d ≤ amountOf outs d := by
  revert fin0
  fun_induction finalOuts slip outs with
  | case1 => intro _ h; cases h; simp [amountOf]                    -- no coin left
  | case2 | case3 => intro _ h; cases h                             -- negative payout / the rest fails
  | case4 c cs f hf rest hrest ih =>                                -- `c` is paid out as `f`
    intro _ h
    cases h
    obtain ⟨hc, hcs⟩ := List.forall_mem_cons.mp hp
    obtain ⟨i1, i2⟩ := ih hcs hrest
    have : f ≤ c.amount := by simp only [f, Dec.ofInt_mul]; exact Dec.truncInt_mul_one_sub_le hs (by omega)
    simp only [amountOf]
    split <;> constructor <;> omega

/-- what the pairs pay in, per denom -/
def insOf : List (Coin × Denom) → Denom → Int
  | [], _ => 0
  | p :: ps, d => (if p.1.denom = d then p.1.amount else 0) + insOf ps d

/-- Σ of the quoted out amounts per denom, EVERY pair quoted at the one list `ts` (the tokens at loop entry), while the
code quotes pair k at the list after pairs 1..k-1: the same number, because a quote reads only the static part of the
list (`quote_static`, `outsOf_static`) -/
def outsOf (fee : Dec.D) (ts : List Token) : List (Coin × Denom) → Denom → Int
  | [], _ => 0
  | p :: ps, d =>
    (match quote fee ts p.1 p.2 with
     | some q => if p.2 = d then q.out else 0
     | none => 0) + outsOf fee ts ps d

theorem outsOf_static (fee : Dec.D) {ts ts' : List Token} (ps : List (Coin × Denom)) (d : Denom)
    (h : ts'.map static = ts.map static) : outsOf fee ts' ps d = outsOf fee ts ps d := by
  induction ps with
  | nil => rfl
  | cons p ps ih => simp only [outsOf, quote_static fee p.1 p.2 h, ih]

/-- every guard of `swapPair` (`out_pos` stands for the two checks `out = 0`, `out < 0`), in the order of the code -/
structure SwapPairOk (b : Basket) (now : Nat) (a : Acct) (acc : SwapAcc) (inC : Coin) (outD : Denom)
    (bank1 : Bank) (ti to : Token) (q : Quote) (toks1 toks2 : List Token) : Prop where
  paidIn : acc.bank.send a .module [inC] = some bank1
  tokIn : lookupLast inC.denom acc.tokens = some ti
  tokOut : lookupLast outD acc.tokens = some to
  swapsIn : ti.swaps = true
  swapsOut : to.swaps = true
  quoted : quote b.swapFee acc.tokens inC outD = some q
  min : b.swapsMin ≤ q.swapValue
  max : periodSum b.id now b.limitsPeriod (reg acc.hist b.id now q.swapValue) ≤ b.swapsMax
  out_pos : 0 < q.out
  amount_nonneg : 0 ≤ q.swapAmount
  credited : addAmt inC.denom q.swapAmount acc.tokens = some toks1
  debited : subAmt outD q.out toks1 = some toks2

theorem swapPair_some {b : Basket} {now : Nat} {a : Acct} {acc acc' : SwapAcc} {inC : Coin} {outD : Denom}
    (h : swapPair b now a acc inC outD = some acc') :
    ∃ bank1 ti to q toks1 toks2, SwapPairOk b now a acc inC outD bank1 ti to q toks1 toks2 ∧
      acc' = { bank := bank1, tokens := toks2,
               surplus := if 0 < q.fee then add1 acc.surplus ⟨inC.denom, q.fee⟩ else acc.surplus,
               hist := reg acc.hist b.id now q.swapValue, outs := add1 acc.outs ⟨outD, q.out⟩ } := by
  revert h
  fun_cases swapPair b now a acc inC outD <;> try (intro h; cases h; done)
  next bank1 hb1 ti to hto hti hsi hso q hq hmin hist hmax sur hout0 hsa toks1 ht1 hout toks2 ht2 =>   -- every check passed
    intro e; cases e
    exact ⟨bank1, ti, to, q, toks1, toks2,
      { paidIn := hb1, tokIn := hti, tokOut := hto, swapsIn := by simpa using hsi, swapsOut := by simpa using hso,
        quoted := hq, min := Int.not_lt.mp hmin, max := Int.not_lt.mp hmax, out_pos := by omega,
        amount_nonneg := Int.not_lt.mp hsa, credited := ht1, debited := ht2 }, rfl⟩

/-- every guard of `swap`; `acc` is the pair loop's result, `fin0` the payouts after the slippage fee -/
structure SwapOk (s : St) (a : Acct) (id : Nat) (pairs : List (Coin × Denom)) (b : Basket) (old : Dec.D) (acc : SwapAcc)
    (slip : Dec.D) (fin0 : Coins) (bank2 : Bank) (slipAmts : Coins) : Prop where
  get : getBasket s.baskets id = some b
  enabled : b.swapsDisabled = false
  disbalance : avgDisbalance b.tokens = some old
  loop : swapPairs b s.now a ⟨s.bank, b.tokens, b.surplus, s.swapH, []⟩ pairs = some acc
  slippage : slippageFee b.slippageFeeMin acc.tokens old = some slip
  payouts : finalOuts slip acc.outs = some fin0
  paidOut : acc.bank.send .module a (addCoins [] fin0) = some bank2
  kept : subCoins? acc.outs (addCoins [] fin0) = some slipAmts
  cap : capOk b.tokensCap acc.tokens = true

theorem swap_some {s s' : St} {a : Acct} {id : Nat} {pairs : List (Coin × Denom)} (h : swap s a id pairs = some s') :
    ∃ b old acc slip fin0 bank2 slipAmts, SwapOk s a id pairs b old acc slip fin0 bank2 slipAmts ∧
      s' = { s with bank := bank2, swapH := acc.hist,
                    baskets := setBasket s.baskets { b with tokens := acc.tokens, surplus := addCoins acc.surplus slipAmts } } := by
  revert h
  fun_cases swap s a id pairs <;> try (intro h; cases h; done)
  next b hb hdis old hold acc hacc slip hslip fin0 hfin fin bank2 hb2 slipAmts hsl sur hcap =>   -- every check passed
    intro e; cases e
    exact ⟨b, old, acc, slip, fin0, bank2, slipAmts,
      { get := hb, enabled := by simpa using hdis, disbalance := hold, loop := hacc, slippage := hslip, payouts := hfin,
        paidOut := hb2, kept := hsl, cap := hcap }, rfl⟩

/-- the quantity the pair loop keeps constant (`PairsEffect.slack`): the module balance less what the loop's books say it
owes - reserves, surplus and the payouts pending for the sender. At loop entry (`outs = []`) it is this basket's share of
`C11.unaccounted`. -/
def loopSlack (acc : SwapAcc) (d : Denom) : Int :=
  acc.bank.balOf .module d - reserveOf acc.tokens d - amountOf acc.surplus d - amountOf acc.outs d

/-- what the pair loop has done between `acc` and `acc'`. Only `slack` needs `0 ≤ swapFee`: a negative fee is credited to
the reserve (`swapAmount > amount`) and not booked to the surplus, so the books would gain what the module did not
receive (C11 `negative_fee_counterexample`). -/
structure PairsEffect (b : Basket) (i : Nat) (pairs : List (Coin × Denom)) (acc acc' : SwapAcc) : Prop where
  supply : acc'.bank.supply = acc.bank.supply
  slack : 0 ≤ b.swapFee → ∀ d, loopSlack acc' d = loopSlack acc d
  user : ∀ d, acc'.bank.balOf (.user i) d = acc.bank.balOf (.user i) d - insOf pairs d
  static_eq : acc'.tokens.map static = acc.tokens.map static
  allPos : AllPos acc.outs → AllPos acc'.outs
  nonNeg : NonNeg acc.tokens → NonNeg acc'.tokens
  outs : ∀ d, amountOf acc'.outs d = amountOf acc.outs d + outsOf b.swapFee acc.tokens pairs d

theorem swapPair_effect {b : Basket} {now i : Nat} {acc acc' : SwapAcc} {inC : Coin} {outD : Denom}
    (h : swapPair b now (.user i) acc inC outD = some acc') : PairsEffect b i [(inC, outD)] acc acc' := by
  obtain ⟨bank1, ti, to, q, toks1, toks2, ok, rfl⟩ := swapPair_some h
  obtain ⟨hv, s1, e1⟩ := Bank.send_spec ok.paidIn
  obtain ⟨ti', cr⟩ := addAmt_spec ok.credited
  obtain ⟨r2, st2, nn2⟩ := subAmt_spec ok.debited
  have hin : 0 < inC.amount := validCoins_allPos hv inC (by simp)
  obtain ⟨_, _, hq⟩ := quote_some ok.quoted
  refine { supply := s1, slack := fun hfee d => ?_, user := fun d => ?_, static_eq := by rw [st2, cr.static_eq],
           allPos := fun hp => allPos_add1 _ _ hp ok.out_pos, nonNeg := fun hn => ?_, outs := fun d => ?_ }
  · -- in denom `inC.denom` the module receives `inC.amount` = credited to the reserve + fee; `q.out` moves from reserve to `outs`
    have hfeeeq := hq.fee
    have hf : 0 ≤ q.fee := by
      rw [hfeeeq, hq.swapAmount]; have := Dec.truncInt_mul_one_sub_le hfee (Int.le_of_lt hin); omega
    -- the fee is booked to the surplus only when positive; a zero fee changes nothing either way
    have hsur : amountOf (if 0 < q.fee then add1 acc.surplus ⟨inC.denom, q.fee⟩ else acc.surplus) d =
        amountOf acc.surplus d + (if inC.denom = d then q.fee else 0) := by
      split
      · rw [amountOf_add1]
      · -- the one use of `0 ≤ swapFee` (through `hf`): the fee is not booked, and it is 0
        have : q.fee = 0 := by omega
        split <;> omega
    unfold loopSlack
    simp only [e1, r2, cr.reserves, amountOf_add1, hsur, amountOf, reduceCtorEq, if_false, if_true]
    -- only `hfeeeq : q.fee = inC.amount - q.swapAmount` is needed now; the rest would only slow `omega` down
    clear hin hq hf hsur
    by_cases hd : inC.denom = d <;> simp only [hd, if_true, if_false] <;> omega
  · rw [e1]
    simp only [insOf, amountOf, reduceCtorEq, if_false, if_true]
    omega
  · obtain rfl : ti = ti' := Option.some.inj (ok.tokIn.symm.trans cr.found)
    have := hn ti (lookupLast_mem ok.tokIn).1
    have := ok.amount_nonneg
    exact nn2 (cr.nonNeg hn (by omega))
  · rw [amountOf_add1]
    simp only [outsOf, ok.quoted]
    omega

theorem swapPairs_effect {b : Basket} {now i : Nat} {pairs : List (Coin × Denom)} {acc acc' : SwapAcc}
    (h : swapPairs b now (.user i) acc pairs = some acc') : PairsEffect b i pairs acc acc' := by
  fun_induction swapPairs b now (.user i) acc pairs with
  | case1 acc =>                                   -- no pair left
    cases h
    exact { supply := rfl, slack := fun _ _ => rfl, user := fun d => by simp [insOf], static_eq := rfl, allPos := id,
            nonNeg := id, outs := fun d => by simp [outsOf] }
  | case2 => cases h                               -- the first pair fails
  | case3 acc inC outD ps acc1 h1 ih =>            -- the first pair gives `acc1`, the loop goes on from there
    have e1 := swapPair_effect h1
    have e2 := ih h
    refine { supply := by rw [e2.supply, e1.supply], slack := fun hf d => by rw [e2.slack hf, e1.slack hf],
             user := fun d => ?_, static_eq := by rw [e2.static_eq, e1.static_eq], allPos := fun hp => e2.allPos (e1.allPos hp),
             nonNeg := fun hn => e2.nonNeg (e1.nonNeg hn), outs := fun d => ?_ }
    · rw [e2.user d, e1.user d]
      simp only [insOf]
      omega
    · rw [e2.outs d, e1.outs d, outsOf_static _ _ d e1.static_eq]
      simp only [outsOf]
      omega

/-- `ti`, `to` are the tokens as the pair SAW them (earlier pairs have moved their amounts): equal to the entry tokens in
the static part, hence `.map static` -/
theorem swapPairs_respects_limits {b : Basket} {now i : Nat} {pairs : List (Coin × Denom)} {acc acc' : SwapAcc}
    (h : swapPairs b now (.user i) acc pairs = some acc') :
    (∀ p ∈ pairs, ∃ ti to q,
        (lookupLast p.1.denom acc.tokens).map static = some (static ti) ∧
        (lookupLast p.2 acc.tokens).map static = some (static to) ∧ ti.swaps = true ∧ to.swaps = true ∧
        quote b.swapFee acc.tokens p.1 p.2 = some q ∧ b.swapsMin ≤ q.swapValue) ∧
    (pairs ≠ [] → periodSum b.id now b.limitsPeriod acc'.hist ≤ b.swapsMax) := by
  fun_induction swapPairs b now (.user i) acc pairs with
  | case1 => exact ⟨fun _ hp => (nomatch hp), fun hne => absurd rfl hne⟩   -- no pair left
  | case2 => cases h                                                       -- the first pair fails
  | case3 acc inC outD ps acc1 h1 ih =>                                    -- the first pair gives `acc1`
    obtain ⟨bank1, ti, to, q, toks1, toks2, ok, hacc1⟩ := swapPair_some h1
    have st1 := (swapPair_effect h1).static_eq
    obtain ⟨ih1, ih2⟩ := ih h
    -- the later pairs were checked against `acc1.tokens`, which differ from `acc.tokens` in amounts only
    simp only [fun d => lookupLast_map_static d st1, fun c o => quote_static b.swapFee c o st1] at ih1
    refine ⟨List.forall_mem_cons.mpr ⟨⟨ti, to, q, by simp [ok.tokIn], by simp [ok.tokOut], ok.swapsIn, ok.swapsOut,
      ok.quoted, ok.min⟩, ih1⟩, fun _ => ?_⟩
    -- the bound on the FINAL history is the check the LAST pair made; for a longer list that is the induction hypothesis
    cases ps with
    | nil =>
      unfold swapPairs at h; cases h
      rw [hacc1]; exact ok.max
    | cons p' ps' => exact ih2 (by simp)

/-- `fin` is what the sender receives: the quoted out amounts less the slippage fee, which stays in the surplus -/
structure SwapEffect (s s' : St) (i : Nat) (pairs : List (Coin × Denom)) (b : Basket) (toks : List Token)
    (sur fin : Coins) : Prop where
  baskets : s'.baskets = setBasket s.baskets { b with tokens := toks, surplus := sur }
  supply : ∀ d, s'.bank.supplyOf d = s.bank.supplyOf d
  books : 0 ≤ b.swapFee → ∀ d, s'.bank.balOf .module d - (reserveOf toks d + amountOf sur d) =
    s.bank.balOf .module d - (reserveOf b.tokens d + amountOf b.surplus d)
  user : ∀ d, s'.bank.balOf (.user i) d = s.bank.balOf (.user i) d - insOf pairs d + amountOf fin d
  received : ∀ d, 0 ≤ amountOf fin d ∧ amountOf fin d ≤ outsOf b.swapFee b.tokens pairs d

theorem swap_effect {s s' : St} {i id : Nat} {pairs : List (Coin × Denom)} (h : swap s (.user i) id pairs = some s') :
    ∃ b toks sur fin, getBasket s.baskets id = some b ∧ SwapEffect s s' i pairs b toks sur fin := by
  obtain ⟨b, old, acc, slip, fin0, bank2, slipAmts, ok, rfl⟩ := swap_some h
  have lp := swapPairs_effect ok.loop
  obtain ⟨_, s2, e2⟩ := Bank.send_spec ok.paidOut
  have hf := finalOuts_spec ok.payouts (slippageFee_nonneg ok.slippage)
    (lp.allPos fun _ hc => nomatch hc)
  have hsub := subCoins?_spec ok.kept
  refine ⟨b, acc.tokens, addCoins acc.surplus slipAmts, addCoins [] fin0, ok.get,
    { baskets := rfl, supply := fun d => ?_, books := fun hfee d => ?_, user := fun d => ?_, received := fun d => ?_ }⟩
  · show bank2.supplyOf d = _
    rw [Bank.supplyOf_eq_of_supply_eq s2, Bank.supplyOf_eq_of_supply_eq lp.supply]
  · show bank2.balOf .module d - _ = _
    have hp := lp.slack hfee d
    unfold loopSlack at hp
    simp only [amountOf] at hp
    rw [e2]
    simp only [amountOf_addCoins, hsub, amountOf, reduceCtorEq, if_false, if_true]
    omega
  · show bank2.balOf (.user i) d = _
    rw [e2, lp.user d]
    simp only [reduceCtorEq, if_false, if_true, amountOf_addCoins, amountOf]
    omega
  · rw [amountOf_addCoins, amountOf_nil, Int.zero_add]
    have := lp.outs d
    simp only [amountOf] at this
    have := hf d
    omega

end Sekai.Lemmas.Basket
