import Sekai.Model.Ident
import SekaiProofs.Lemmas.Lookup
/-! Key formalisation is idempotent (`lower_idem`); then the stores of the identity-registrar model: what a read returns
after a write (records, requests, balances, escrow), each write in closed form, and that a non-zero index read comes from
an index entry. `putRecord`, `idsOf`, `tipIn`, `payTip`, `takeTip` name expressions the model writes out; the later modules
are stated in them (`payTip_some`, `takeTip_some`: what the two tip moves do to balances and escrow). -/
namespace Sekai.Ident

theorem toNat_ofNat_small (n : Nat) (h : n < 1000) : (Char.ofNat n).toNat = n := by
  have hv : n.isValidChar := by left; omega
  simp [Char.ofNat, hv, Char.toNat, Char.ofNatAux]

theorem lowerChar_idem (c : Char) : lowerChar (lowerChar c) = lowerChar c := by
  by_cases h : 65 ≤ c.toNat ∧ c.toNat ≤ 90
  · have h1 : lowerChar c = Char.ofNat (c.toNat + 32) := by simp [lowerChar, h]
    have h2 : (Char.ofNat (c.toNat + 32)).toNat = c.toNat + 32 := toNat_ofNat_small _ (by omega)
    rw [h1]
    have : ¬ (65 ≤ (Char.ofNat (c.toNat + 32)).toNat ∧ (Char.ofNat (c.toNat + 32)).toNat ≤ 90) := by omega
    conv => lhs; unfold lowerChar
    rw [if_neg this]
  · have h1 : lowerChar c = c := by simp [lowerChar, h]
    rw [h1, h1]

theorem lower_idem (s : String) : lower (lower s) = lower s := by
  have : lowerChar ∘ lowerChar = lowerChar := by funext c; exact lowerChar_idem c
  simp [lower, this]

theorem getRec_mem {S : State} {id : Nat} {r : Record} (h : getRec S id = some r) : r ∈ S.records ∧ r.id = id := by
  unfold getRec at h
  exact ⟨List.mem_of_find?_eq_some h, by simpa using List.find?_some h⟩

theorem getRec_congr {S S' : State} (h : S'.records = S.records) (id : Nat) : getRec S' id = getRec S id := by
  unfold getRec; rw [h]

/-- the state written by a successful `SetIdentityRecord` -/
def putRecord (S : State) (r : Record) : State :=
  { S with
    records := { r with key := lower r.key } :: S.records.filter (fun x => x.id != r.id),
    idx := ⟨r.addr, lower r.key, r.id⟩ :: S.idx.filter (fun e => !(e.addr == r.addr && e.key == lower r.key)) }

theorem setRecord_some {S S' : State} {r : Record} (h : setRecord S r = some S') :
    validKey r.key = true ∧ uniqueOk S r.key r.value r.addr = true ∧ S' = putRecord S r := by
  unfold setRecord at h
  split at h
  · cases h
  · split at h
    · cases h
    · rename_i h1 h2
      refine ⟨by simpa using h1, by simpa using h2, ?_⟩
      simp only [Option.some.injEq] at h
      exact h.symm

theorem formalised_eq {r : Record} (hl : lower r.key = r.key) : ({ r with key := lower r.key } : Record) = r := by
  rw [hl]

theorem getRec_putRecord (S : State) (r : Record) (id : Nat) :
    getRec (putRecord S r) id = if r.id = id then some { r with key := lower r.key } else getRec S id :=
  find?_cons_filter_key Record.id S.records { r with key := lower r.key } id

theorem mem_putRecord {S : State} {r x : Record} (h : x ∈ (putRecord S r).records) :
    x = { r with key := lower r.key } ∨ (x ∈ S.records ∧ x.id ≠ r.id) := by
  simp only [putRecord, List.mem_cons, List.mem_filter] at h
  rcases h with h | ⟨h1, h2⟩
  · exact Or.inl h
  · exact Or.inr ⟨h1, by simpa using h2⟩

/-- closed form, the absent id included (the filter then drops nothing) -/
theorem deleteRecordById_eq (S : State) (d : Nat) :
    deleteRecordById S d = { S with records := S.records.filter (fun x => x.id != d) } := by
  unfold deleteRecordById
  cases hd : getRec S d with
  | none => simp only; rw [filter_key_ne_self Record.id S.records d hd]
  | some r => rfl

theorem getRec_delete (S : State) (d id : Nat) :
    getRec (deleteRecordById S d) id = if d = id then none else getRec S id := by
  rw [deleteRecordById_eq]
  exact find?_filter_key Record.id S.records d id

theorem mem_delete {S : State} {d : Nat} {x : Record} (h : x ∈ (deleteRecordById S d).records) :
    x ∈ S.records ∧ x.id ≠ d := by
  rw [deleteRecordById_eq] at h
  exact ⟨(List.mem_filter.mp h).1, by simpa using (List.mem_filter.mp h).2⟩

theorem mem_delete_of {S : State} {d : Nat} {x : Record} (h : x ∈ S.records) (hne : x.id ≠ d) :
    x ∈ (deleteRecordById S d).records := by
  rw [deleteRecordById_eq]
  exact List.mem_filter.mpr ⟨h, by simpa using hne⟩

theorem idxGet_spec {S : State} {a : Nat} {k : String} {id : Nat} (h : idxGet S a k = id) (hne : id ≠ 0) :
    ∃ e ∈ S.idx, e.addr = a ∧ e.key = k ∧ e.id = id := by
  unfold idxGet at h
  split at h
  · rename_i e he
    refine ⟨e, List.mem_of_find?_eq_some he, ?_, ?_, h⟩
    · have := List.find?_some he; simp only [Bool.and_eq_true, beq_iff_eq] at this; exact this.1
    · have := List.find?_some he; simp only [Bool.and_eq_true, beq_iff_eq] at this; exact this.2
  · exact absurd h.symm hne

theorem idxGetK_spec {S : State} {a : Nat} {k : String} {id : Nat} (h : idxGetK S a k = id) (hne : id ≠ 0) :
    ∃ e ∈ S.idx, e.addr = a ∧ e.key = lower k ∧ e.id = id := by
  unfold idxGetK at h
  split at h
  · exact idxGet_spec h hne
  · exact absurd h.symm hne

/-- the record ids the index lists under address `a` (`Recovery.idsOf` in the recovery model's copy of the registry) -/
abbrev idsOf (S : State) (a : Nat) : List Nat := (S.idx.filter (fun e => e.addr == a)).map (·.id)

theorem mem_idsOf {S : State} {a id : Nat} : id ∈ idsOf S a ↔ ∃ e ∈ S.idx, e.addr = a ∧ e.id = id := by
  simp only [idsOf, List.mem_map, List.mem_filter, beq_iff_eq, and_assoc]

theorem getReq_mem {S : State} {id : Nat} {q : Request} (h : getReq S id = some q) : q ∈ S.reqs ∧ q.id = id := by
  unfold getReq at h
  exact ⟨List.mem_of_find?_eq_some h, by simpa using List.find?_some h⟩

theorem getReq_congr {S S' : State} (h : S'.reqs = S.reqs) (id : Nat) : getReq S' id = getReq S id := by
  unfold getReq; rw [h]

theorem getReq_setReq (S : State) (q : Request) (id : Nat) :
    getReq (setReq S q) id = if q.id = id then some q else getReq S id :=
  find?_cons_filter_key Request.id S.reqs q id

theorem mem_setReq {S : State} {q x : Request} (h : x ∈ (setReq S q).reqs) :
    x = q ∨ (x ∈ S.reqs ∧ x.id ≠ q.id) := by
  simp only [setReq, List.mem_cons, List.mem_filter] at h
  rcases h with h | ⟨h1, h2⟩
  · exact Or.inl h
  · exact Or.inr ⟨h1, by simpa using h2⟩

@[simp] theorem setReq_records (S : State) (q : Request) : (setReq S q).records = S.records := rfl
@[simp] theorem setReq_idx (S : State) (q : Request) : (setReq S q).idx = S.idx := rfl
@[simp] theorem setReq_lastRecordId (S : State) (q : Request) : (setReq S q).lastRecordId = S.lastRecordId := rfl
@[simp] theorem setReq_lastReqId (S : State) (q : Request) : (setReq S q).lastReqId = S.lastReqId := rfl
@[simp] theorem setReq_uniqueKeys (S : State) (q : Request) : (setReq S q).uniqueKeys = S.uniqueKeys := rfl
@[simp] theorem setReq_escrow (S : State) (q : Request) : (setReq S q).escrow = S.escrow := rfl
@[simp] theorem setReq_bal (S : State) (q : Request) : (setReq S q).bal = S.bal := rfl

/-- closed form up to what the two request indexes lose -/
theorem deleteReq_eq (S : State) (d : Nat) :
    ∃ br ba, deleteReq S d = { S with reqs := S.reqs.filter (fun x => x.id != d), byReq := br, byApp := ba } := by
  unfold deleteReq
  cases hd : getReq S d with
  | none => exact ⟨S.byReq, S.byApp, by simp only; rw [filter_key_ne_self Request.id S.reqs d hd]⟩
  | some q => exact ⟨_, _, rfl⟩

theorem deleteReq_reqs (S : State) (d : Nat) : (deleteReq S d).reqs = S.reqs.filter (fun x => x.id != d) := by
  obtain ⟨_, _, e⟩ := deleteReq_eq S d
  rw [e]

@[simp] theorem deleteReq_lastReqId (S : State) (d : Nat) : (deleteReq S d).lastReqId = S.lastReqId := by
  obtain ⟨_, _, e⟩ := deleteReq_eq S d
  rw [e]
@[simp] theorem deleteReq_escrow (S : State) (d : Nat) : (deleteReq S d).escrow = S.escrow := by
  obtain ⟨_, _, e⟩ := deleteReq_eq S d
  rw [e]
@[simp] theorem deleteReq_bal (S : State) (d : Nat) : (deleteReq S d).bal = S.bal := by
  obtain ⟨_, _, e⟩ := deleteReq_eq S d
  rw [e]

theorem getReq_deleteReq (S : State) (d id : Nat) :
    getReq (deleteReq S d) id = if d = id then none else getReq S id := by
  unfold getReq
  rw [deleteReq_reqs]
  exact find?_filter_key Request.id S.reqs d id

theorem mem_deleteReq {S : State} {d : Nat} {x : Request} (h : x ∈ (deleteReq S d).reqs) :
    x ∈ S.reqs ∧ (getReq S x.id = some x → x.id ≠ d) := by
  rw [deleteReq_reqs] at h
  exact ⟨(List.mem_filter.mp h).1, fun _ => by simpa using (List.mem_filter.mp h).2⟩

theorem balGet_balSet (S : State) (a d n a' d' : Nat) :
    balGet (balSet S a d n) a' d' = if a = a' ∧ d = d' then n else balGet S a' d' := by
  unfold balGet balSet
  by_cases h : a = a' ∧ d = d'
  · obtain ⟨h1, h2⟩ := h
    subst h1; subst h2
    simp
  · simp only [if_neg h]
    have h' : ((a == a') && (d == d')) = false := by
      cases ha : a == a' <;> cases hd : d == d' <;> simp_all
    simp only [List.find?_cons, h']
    rw [find?_filter_of_imp]
    intro x hx
    simp only [Bool.and_eq_true, beq_iff_eq] at hx
    simp only [Bool.not_eq_true', Bool.and_eq_false_iff, beq_eq_false_iff_ne, ne_eq]
    rcases hx with ⟨h1, h2⟩
    by_cases ha : x.1 = a
    · right; intro hd; exact h ⟨by omega, by omega⟩
    · left; exact ha

theorem escrowGet_escrowSet (S : State) (d n d' : Nat) :
    escrowGet (escrowSet S d n) d' = if d = d' then n else escrowGet S d' := by
  unfold escrowGet escrowSet
  by_cases h : d = d'
  · subst h; simp
  · simp only [if_neg h]
    have h' : (d == d') = false := by simpa using h
    simp only [List.find?_cons, h']
    rw [find?_filter_of_imp]
    intro x hx
    simp only [beq_iff_eq] at hx
    simp [hx]; exact fun e => h e.symm

@[simp] theorem escrowGet_balSet (S : State) (a d n d' : Nat) : escrowGet (balSet S a d n) d' = escrowGet S d' := rfl
@[simp] theorem balGet_escrowSet (S : State) (d n a' d' : Nat) : balGet (escrowSet S d n) a' d' = balGet S a' d' := rfl

theorem balGet_congr {S S' : State} (h : S'.bal = S.bal) (a d : Nat) : balGet S' a d = balGet S a d := by
  unfold balGet; rw [h]
theorem escrowGet_congr {S S' : State} (h : S'.escrow = S.escrow) (d : Nat) : escrowGet S' d = escrowGet S d := by
  unfold escrowGet; rw [h]

/-- the summand of the model's `sumTips` -/
def tipIn (d : Nat) (q : Request) : Nat := if q.denom == d then q.amount else 0

/-- the pay-out that `CancelIdentityRecordsVerifyRequest` and `HandleIdentityRecordsVerifyRequest` share (the model writes
the `if` out in both) -/
def payTip (S : State) (to : Nat) (q : Request) : Option State :=
  if q.amount != 0 then sendFromGov S to q.denom q.amount else some S

/-- the tip of `RequestIdentityRecordsVerify` -/
def takeTip (S : State) (a d n : Nat) : Option State := if n != 0 then sendToGov S a d n else some S

theorem payTip_some {S S1 : State} {q : Request} {to : Nat} (h : payTip S to q = some S1) :
    (∃ b e, S1 = { S with bal := b, escrow := e }) ∧
    (∀ a d, balGet S1 a d = balGet S a d + (if a = to ∧ d = q.denom then q.amount else 0)) ∧
    (∀ d, escrowGet S1 d + tipIn d q = escrowGet S d) := by
  unfold payTip at h
  by_cases h0 : q.amount = 0
  · have e : S = S1 := by simpa [h0] using h
    subst e
    exact ⟨⟨S.bal, S.escrow, rfl⟩, fun a d => by simp [h0], fun d => by simp [tipIn, h0]⟩
  · have hs : sendFromGov S to q.denom q.amount = some S1 := by simpa [h0] using h
    unfold sendFromGov at hs
    split at hs
    · cases hs
    · cases hs
      refine ⟨⟨_, _, rfl⟩, fun a d => ?_, fun d => ?_⟩
      · rw [balGet_balSet, balGet_escrowSet]
        by_cases hc : to = a ∧ q.denom = d
        · obtain ⟨rfl, rfl⟩ := hc; simp
        · have hc' : ¬ (a = to ∧ d = q.denom) := fun ⟨e1, e2⟩ => hc ⟨e1.symm, e2.symm⟩
          simp [hc, hc']
      · rw [escrowGet_balSet, escrowGet_escrowSet]
        unfold tipIn
        by_cases hd : q.denom = d
        · subst hd; simp; omega
        · have : (q.denom == d) = false := by simpa using hd
          simp [hd, this]

theorem takeTip_some {S S1 : State} {a d n : Nat} (h : takeTip S a d n = some S1) :
    (∃ b e, S1 = { S with bal := b, escrow := e }) ∧ balGet S1 a d + n = balGet S a d ∧
    (∀ d', escrowGet S1 d' = escrowGet S d' + (if d = d' then n else 0)) := by
  unfold takeTip at h
  by_cases h0 : n = 0
  · have e : S = S1 := by simpa [h0] using h
    subst e
    exact ⟨⟨S.bal, S.escrow, rfl⟩, by simp [h0], fun d' => by simp [h0]⟩
  · have hs : sendToGov S a d n = some S1 := by simpa [h0] using h
    unfold sendToGov at hs
    split at hs
    · cases hs
    · cases hs
      refine ⟨⟨_, _, rfl⟩, ?_, fun d' => ?_⟩
      · rw [balGet_escrowSet, balGet_balSet]
        simp only [and_self, if_true]
        omega
      · rw [escrowGet_escrowSet]
        by_cases hd : d = d'
        · subst hd; simp
        · simp [hd]

end Sekai.Ident
