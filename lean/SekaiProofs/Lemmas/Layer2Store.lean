import Sekai.Model.Layer2
import SekaiProofs.Lemmas.Lookup
/-! The two list-backed stores of the layer-2 model, dApps by name and user bonds by (dApp, user): `find`/`set`/`del` against
membership, keys, the recorded amount `bondAmt` and the sum `bondSum`; the end-block loop's sorted snapshot is a permutation of
the store (`sortDapps_perm`); the bulk deletion of a launch as a filter (`delBondsOf_eq_filter`, `keepP`); the refund scan
(`scanBonds`, `NoClash`). -/
namespace Sekai.Layer2

/-- the keys of the dApp store -/
def names (ds : List Dapp) : List Bytes := ds.map (·.name)

theorem findDapp_cons (x : Dapp) (xs : List Dapp) (n : Bytes) :
    findDapp (x :: xs) n = if x.name = n then some x else findDapp xs n := by
  unfold findDapp
  rw [List.find?_cons]
  by_cases h : x.name = n <;> simp [h]

theorem findDapp_some {ds : List Dapp} {n : Bytes} {d : Dapp} (h : findDapp ds n = some d) : d ∈ ds ∧ d.name = n := by
  unfold findDapp at h
  exact ⟨List.mem_of_find?_eq_some h, by simpa using List.find?_some h⟩

theorem findDapp_none {ds : List Dapp} {n : Bytes} (h : findDapp ds n = none) : ∀ d ∈ ds, d.name ≠ n := by
  unfold findDapp at h
  intro d hd
  simpa using (List.find?_eq_none.mp h) d hd

theorem findDapp_of_mem {ds : List Dapp} {d : Dapp} (hn : (names ds).Nodup) (hd : d ∈ ds) : findDapp ds d.name = some d := by
  induction ds with
  | nil => cases hd
  | cons x xs ih =>
    simp only [names, List.map_cons, List.nodup_cons] at hn
    rw [findDapp_cons]
    rcases List.mem_cons.mp hd with rfl | hd'
    · rw [if_pos rfl]
    · rw [if_neg (fun (hx : x.name = d.name) => hn.1 (hx ▸ List.mem_map.mpr ⟨d, hd', rfl⟩))]
      exact ih hn.2 hd'

theorem findDapp_setDapp (ds : List Dapp) (r : Dapp) (n : Bytes) :
    findDapp (setDapp ds r) n = if n = r.name then some r else findDapp ds n := by
  induction ds with
  | nil => simp [setDapp, findDapp, eq_comm]
  | cons x xs ih =>
    unfold setDapp
    by_cases hx : x.name = r.name
    · rw [if_pos hx, findDapp_cons, findDapp_cons, hx]
      by_cases hn : n = r.name
      · rw [if_pos hn, if_pos hn.symm]
      · rw [if_neg hn, if_neg (Ne.symm hn), if_neg (Ne.symm hn)]
    · rw [if_neg hx, findDapp_cons, findDapp_cons, ih]
      by_cases hn : x.name = n
      · rw [if_pos hn, if_pos hn, if_neg (fun e => hx (hn.trans e))]
      · rw [if_neg hn, if_neg hn]

/-- only this direction holds without unique names: `SetDapp` replaces the first record under the name -/
theorem mem_of_mem_setDapp {ds : List Dapp} {d x : Dapp} (h : x ∈ setDapp ds d) : x = d ∨ x ∈ ds := by
  induction ds with
  | nil => exact Or.inl (List.mem_singleton.mp h)
  | cons y ys ih =>
    unfold setDapp at h
    split at h
    · exact (List.mem_cons.mp h).imp_right (List.mem_cons_of_mem _)
    · rcases List.mem_cons.mp h with rfl | h'
      · exact Or.inr List.mem_cons_self
      · exact (ih h').imp_right (List.mem_cons_of_mem _)

theorem setDapp_setDapp (ds : List Dapp) {a b : Dapp} (h : a.name = b.name) : setDapp (setDapp ds a) b = setDapp ds b := by
  induction ds with
  | nil => simp [setDapp, h]
  | cons y ys ih =>
    by_cases hy : y.name = a.name
    · simp [setDapp, hy, h]
    · have hy' : ¬ y.name = b.name := fun e => hy (e.trans h.symm)
      simp [setDapp, hy, hy', ih]

theorem nodup_if_mem_append {α : Type} {l : List α} (a : α) [Decidable (a ∈ l)] (hn : l.Nodup) :
    (if a ∈ l then l else l ++ [a]).Nodup := by
  split
  · exact hn
  · exact nodup_append_singleton hn ‹_›

theorem names_setDapp (ds : List Dapp) (d : Dapp) :
    names (setDapp ds d) = if d.name ∈ names ds then names ds else names ds ++ [d.name] := by
  induction ds with
  | nil => rfl
  | cons y ys ih =>
    unfold setDapp
    by_cases hy : y.name = d.name
    · rw [if_pos hy, if_pos (by simp [names, hy])]
      simp [names, hy]
    · have hmem : d.name ∈ names (y :: ys) ↔ d.name ∈ names ys := by simp [names, Ne.symm hy]
      rw [if_neg hy]
      simp only [hmem]
      show y.name :: names (setDapp ys d) = _
      rw [ih]
      split <;> rfl

theorem mem_names_setDapp {ds : List Dapp} {d : Dapp} {n : Bytes} : n ∈ names (setDapp ds d) ↔ n = d.name ∨ n ∈ names ds := by
  rw [names_setDapp]
  split
  · rename_i h
    exact ⟨Or.inr, fun h' => h'.elim (fun e => e ▸ h) id⟩
  · simp [or_comm]

theorem names_setDapp_nodup {ds : List Dapp} {d : Dapp} (hn : (names ds).Nodup) : (names (setDapp ds d)).Nodup := by
  rw [names_setDapp]
  exact nodup_if_mem_append _ hn

theorem mem_setDapp {ds : List Dapp} {d x : Dapp} (hn : (names ds).Nodup) :
    x ∈ setDapp ds d ↔ x = d ∨ (x ∈ ds ∧ x.name ≠ d.name) := by
  -- with unique names membership is `findDapp`, so the iff is the get-after-set equation `findDapp_setDapp`
  have hfind : ∀ {l : List Dapp}, (names l).Nodup → (x ∈ l ↔ findDapp l x.name = some x) :=
    fun hl => ⟨findDapp_of_mem hl, fun h => (findDapp_some h).1⟩
  rw [hfind (names_setDapp_nodup hn), hfind hn, findDapp_setDapp]
  by_cases hx : x.name = d.name
  · rw [if_pos hx]
    exact ⟨fun h => Or.inl (Option.some.inj h).symm, fun h => h.elim (fun e => e ▸ rfl) (fun h => absurd hx h.2)⟩
  · rw [if_neg hx]
    exact ⟨fun h => Or.inr ⟨h, hx⟩, fun h => h.elim (fun e => absurd (e ▸ rfl) hx) (·.1)⟩

theorem mem_setDapp_of_ne {ds : List Dapp} {d x : Dapp} (hn : (names ds).Nodup) (hx : x ∈ ds) (hne : x.name ≠ d.name) :
    x ∈ setDapp ds d :=
  (mem_setDapp hn).mpr (Or.inr ⟨hx, hne⟩)

theorem mem_delDapp {ds : List Dapp} {n : Bytes} {x : Dapp} : x ∈ delDapp ds n ↔ x ∈ ds ∧ x.name ≠ n := by
  unfold delDapp
  simp [List.mem_filter]

theorem findDapp_delDapp (ds : List Dapp) (name : Bytes) : findDapp (delDapp ds name) name = none :=
  List.find?_eq_none.mpr (fun x hx => by simpa using (mem_delDapp.mp hx).2)

theorem insDapp_perm (d : Dapp) (l : List Dapp) : (insDapp d l).Perm (d :: l) := by
  induction l with
  | nil => exact List.Perm.refl _
  | cons x xs ih =>
    unfold insDapp
    split
    · exact ((List.Perm.cons x ih).trans (List.Perm.swap d x xs))
    · exact List.Perm.refl _

/-- the end-block loop visits exactly the stored records -/
theorem sortDapps_perm (l : List Dapp) : (sortDapps l).Perm l := by
  induction l with
  | nil => exact List.Perm.refl _
  | cons x xs ih => unfold sortDapps; exact (insDapp_perm x _).trans (List.Perm.cons x ih)

/-- the key of a bond record in the model's list (the Go store key is `bondKey`: the two concatenated) -/
def UBond.key (b : UBond) : Bytes × Nat := (b.dapp, b.user)
def keys (bs : List UBond) : List (Bytes × Nat) := bs.map UBond.key

theorem UBond.key_eq {x y : UBond} : x.key = y.key ↔ x.dapp = y.dapp ∧ x.user = y.user := by
  simp [UBond.key]

theorem findBond_some {bs : List UBond} {d : Bytes} {u : Nat} {b : UBond} (h : findBond bs d u = some b) :
    b ∈ bs ∧ b.dapp = d ∧ b.user = u := by
  unfold findBond at h
  exact ⟨List.mem_of_find?_eq_some h, by simpa using List.find?_some h⟩

theorem findBond_none {bs : List UBond} {d : Bytes} {u : Nat} (h : findBond bs d u = none) : ∀ b ∈ bs, ¬ (b.dapp = d ∧ b.user = u) := by
  unfold findBond at h
  intro b hb
  have := (List.find?_eq_none.mp h) b hb
  simpa using this

theorem bondAmt_cons (x : UBond) (xs : List UBond) (d : Bytes) (u : Nat) :
    bondAmt (x :: xs) d u = if x.dapp = d ∧ x.user = u then x.amt else bondAmt xs d u := by
  unfold bondAmt findBond
  rw [List.find?_cons]
  by_cases h : x.dapp = d ∧ x.user = u <;> simp [h]

theorem bondSum_cons (b : UBond) (bs : List UBond) (d : Bytes) :
    bondSum (b :: bs) d = (if b.dapp = d then b.amt else 0) + bondSum bs d := rfl

theorem bondAmt_eq_zero {bs : List UBond} {d : Bytes} {u : Nat} (h : ∀ b ∈ bs, ¬ (b.dapp = d ∧ b.user = u)) : bondAmt bs d u = 0 := by
  induction bs with
  | nil => rfl
  | cons x xs ih =>
    rw [bondAmt_cons, if_neg (h x List.mem_cons_self)]
    exact ih (fun b hb => h b (List.mem_cons_of_mem _ hb))

theorem bondSum_eq_zero {bs : List UBond} {d : Bytes} (h : ∀ b ∈ bs, b.dapp ≠ d) : bondSum bs d = 0 := by
  induction bs with
  | nil => rfl
  | cons x xs ih =>
    rw [bondSum_cons, if_neg (h x List.mem_cons_self), ih (fun b hb => h b (List.mem_cons_of_mem _ hb))]
    rfl

theorem bondSum_nonneg {bs : List UBond} {d : Bytes} (h : ∀ b ∈ bs, 0 < b.amt) : 0 ≤ bondSum bs d := by
  induction bs with
  | nil => exact Int.le_refl 0
  | cons x xs ih =>
    have := h x List.mem_cons_self
    have := ih (fun b hb => h b (List.mem_cons_of_mem _ hb))
    rw [bondSum_cons]
    split <;> omega

theorem bondAmt_tail_eq_zero {x : UBond} {xs : List UBond} (hn : (keys (x :: xs)).Nodup) : bondAmt xs x.dapp x.user = 0 :=
  bondAmt_eq_zero (fun b hb hk =>
    (List.nodup_cons.mp hn).1 (UBond.key_eq.mpr hk ▸ List.mem_map.mpr ⟨b, hb, rfl⟩))

theorem bondAmt_of_mem {bs : List UBond} {b : UBond} (hn : (keys bs).Nodup) (hb : b ∈ bs) : bondAmt bs b.dapp b.user = b.amt := by
  induction bs with
  | nil => cases hb
  | cons x xs ih =>
    rw [bondAmt_cons]
    rcases List.mem_cons.mp hb with rfl | hb'
    · rw [if_pos ⟨rfl, rfl⟩]
    · rw [if_neg (fun (hk : x.dapp = b.dapp ∧ x.user = b.user) => (List.nodup_cons.mp hn).1 (UBond.key_eq.mpr hk ▸ List.mem_map.mpr ⟨b, hb', rfl⟩))]
      exact ih (List.nodup_cons.mp hn).2 hb'

theorem bondAmt_setBond (bs : List UBond) (nb : UBond) (d : Bytes) (u : Nat) :
    bondAmt (setBond bs nb) d u = if nb.dapp = d ∧ nb.user = u then nb.amt else bondAmt bs d u := by
  induction bs with
  | nil => unfold setBond; rw [bondAmt_cons]
  | cons x xs ih =>
    unfold setBond
    by_cases hx : x.dapp = nb.dapp ∧ x.user = nb.user
    · rw [if_pos hx, bondAmt_cons, bondAmt_cons, hx.1, hx.2]
      split <;> rfl
    · rw [if_neg hx, bondAmt_cons, bondAmt_cons, ih]
      by_cases hxd : x.dapp = d ∧ x.user = u
      · have hn : ¬ (nb.dapp = d ∧ nb.user = u) := fun hn => hx ⟨hxd.1.trans hn.1.symm, hxd.2.trans hn.2.symm⟩
        simp only [if_pos hxd, if_neg hn]
      · simp only [if_neg hxd]

theorem bondSum_setBond (bs : List UBond) (nb : UBond) (d : Bytes) :
    bondSum (setBond bs nb) d = bondSum bs d + (if nb.dapp = d then nb.amt - bondAmt bs nb.dapp nb.user else 0) := by
  induction bs with
  | nil =>
    show (if nb.dapp = d then nb.amt else 0) + 0 = 0 + (if nb.dapp = d then nb.amt - 0 else 0)
    split <;> omega
  | cons x xs ih =>
    unfold setBond
    by_cases hx : x.dapp = nb.dapp ∧ x.user = nb.user
    · rw [if_pos hx, bondAmt_cons, if_pos hx, bondSum_cons, bondSum_cons, hx.1]
      split <;> omega
    · rw [if_neg hx, bondAmt_cons, if_neg hx, bondSum_cons, bondSum_cons, ih]
      omega

theorem mem_of_mem_setBond {bs : List UBond} {nb x : UBond} (h : x ∈ setBond bs nb) : x = nb ∨ x ∈ bs := by
  induction bs with
  | nil => exact Or.inl (List.mem_singleton.mp h)
  | cons y ys ih =>
    unfold setBond at h
    split at h
    · exact (List.mem_cons.mp h).imp_right (List.mem_cons_of_mem _)
    · rcases List.mem_cons.mp h with rfl | h'
      · exact Or.inr List.mem_cons_self
      · exact (ih h').imp_right (List.mem_cons_of_mem _)

theorem keys_setBond (bs : List UBond) (nb : UBond) :
    keys (setBond bs nb) = if nb.key ∈ keys bs then keys bs else keys bs ++ [nb.key] := by
  induction bs with
  | nil => rfl
  | cons y ys ih =>
    unfold setBond
    by_cases hy : y.dapp = nb.dapp ∧ y.user = nb.user
    · have hk := UBond.key_eq.mpr hy
      rw [if_pos hy, if_pos (by simp [keys, hk])]
      simp [keys, hk]
    · have hmem : nb.key ∈ keys (y :: ys) ↔ nb.key ∈ keys ys :=
        List.mem_cons.trans ⟨fun h => h.resolve_left (fun e => hy (UBond.key_eq.mp e.symm)), Or.inr⟩
      rw [if_neg hy]
      simp only [hmem]
      show y.key :: keys (setBond ys nb) = _
      rw [ih]
      split <;> rfl

theorem keys_setBond_nodup {bs : List UBond} {nb : UBond} (hn : (keys bs).Nodup) : (keys (setBond bs nb)).Nodup := by
  rw [keys_setBond]
  exact nodup_if_mem_append _ hn

theorem mem_delBond {bs : List UBond} {d : Bytes} {u : Nat} {x : UBond} : x ∈ delBond bs d u ↔ x ∈ bs ∧ ¬ (x.dapp = d ∧ x.user = u) := by
  unfold delBond
  rw [List.mem_filter]
  simp only [decide_eq_true_eq]

theorem keys_filter_nodup {bs : List UBond} (p : UBond → Bool) (hn : (keys bs).Nodup) : (keys (bs.filter p)).Nodup :=
  List.Nodup.sublist (List.Sublist.map _ List.filter_sublist) hn

theorem bondSum_filter_of_keep {bs : List UBond} {p : UBond → Bool} {d : Bytes} (h : ∀ b ∈ bs, b.dapp = d → p b = true) :
    bondSum (bs.filter p) d = bondSum bs d := by
  induction bs with
  | nil => rfl
  | cons x xs ih =>
    have ih' := ih (fun b hb => h b (List.mem_cons_of_mem _ hb))
    rw [List.filter_cons]
    by_cases hp : p x = true
    · rw [if_pos hp, bondSum_cons, bondSum_cons, ih']
    · rw [if_neg hp, bondSum_cons, if_neg (fun hd => hp (h x List.mem_cons_self hd)), ih']
      omega

theorem bondAmt_filter_of_keep {bs : List UBond} {p : UBond → Bool} {d : Bytes} {u : Nat} (h : ∀ b ∈ bs, b.dapp = d → b.user = u → p b = true) :
    bondAmt (bs.filter p) d u = bondAmt bs d u := by
  induction bs with
  | nil => rfl
  | cons x xs ih =>
    have ih' := ih (fun b hb => h b (List.mem_cons_of_mem _ hb))
    rw [List.filter_cons]
    by_cases hp : p x = true
    · rw [if_pos hp, bondAmt_cons, bondAmt_cons, ih']
    · rw [if_neg hp, bondAmt_cons, ih', if_neg (fun hd => hp (h x List.mem_cons_self hd.1 hd.2))]

/-- the records that `delBondsOf bs name l` keeps (`delBondsOf_eq_filter`): all but those of dApp `name` whose user has a record in `l` -/
def keepP (name : Bytes) (l : List UBond) (x : UBond) : Bool := !(decide (x.dapp = name) && l.any (fun b => decide (b.user = x.user)))

theorem delBondsOf_eq_filter (bs : List UBond) (name : Bytes) (l : List UBond) : delBondsOf bs name l = bs.filter (keepP name l) := by
  induction l generalizing bs with
  | nil =>
    unfold delBondsOf
    symm
    rw [List.filter_eq_self]
    intro a _
    simp [keepP]
  | cons b rest ih =>
    unfold delBondsOf
    rw [ih, delBond, List.filter_filter]
    apply List.filter_congr
    intro x _
    simp only [keepP, List.any_cons]
    by_cases h1 : x.dapp = name <;> by_cases h2 : b.user = x.user <;> simp [h1, h2, eq_comm]

theorem keepP_of_ne {name : Bytes} {x : UBond} (l : List UBond) (h : x.dapp ≠ name) : keepP name l x = true := by
  simp [keepP, h]

theorem keepP_of_mem {name : Bytes} {l : List UBond} {x : UBond} (hd : x.dapp = name) (hx : x ∈ l) : keepP name l x = false := by
  simp only [keepP, hd, decide_true, Bool.true_and, Bool.not_eq_false']
  exact List.any_eq_true.mpr ⟨x, hx, by simp⟩

theorem mem_of_mem_delBondsOf {bs l : List UBond} {name : Bytes} {x : UBond} (h : x ∈ delBondsOf bs name l) : x ∈ bs := by
  rw [delBondsOf_eq_filter] at h
  exact (List.mem_filter.mp h).1

theorem bondAmt_delBondsOf_own {bs l : List UBond} {name : Bytes} (u : Nat) (hall : ∀ b ∈ bs, b.dapp = name → b ∈ l) :
    bondAmt (delBondsOf bs name l) name u = 0 := by
  rw [delBondsOf_eq_filter]
  apply bondAmt_eq_zero
  intro x hx hk
  obtain ⟨hx1, hx2⟩ := List.mem_filter.mp hx
  rw [keepP_of_mem hk.1 (hall x hx1 hk.1)] at hx2
  cases hx2

theorem bondAmt_delBondsOf_other {bs l : List UBond} {name n : Bytes} (u : Nat) (hne : n ≠ name) :
    bondAmt (delBondsOf bs name l) n u = bondAmt bs n u := by
  rw [delBondsOf_eq_filter]
  exact bondAmt_filter_of_keep (fun b _ hbd _ => keepP_of_ne l (fun h => hne (hbd.symm.trans h)))

/-- no bond record of ANOTHER dApp has a store key that starts with `name`: `GetUserDappBonds(name)`, a prefix scan, then returns
the dApp's own records only (`scan_eq_own`) -/
def NoClash (addr : Nat → Bytes) (bs : List UBond) (name : Bytes) : Prop :=
  ∀ b ∈ bs, name.isPrefixOf (bondKey addr b) = true → b.dapp = name

theorem own_in_scan {addr : Nat → Bytes} {bs : List UBond} {b : UBond} (hb : b ∈ bs) : b ∈ scanBonds addr bs b.dapp := by
  unfold scanBonds
  rw [List.mem_filter]
  refine ⟨hb, ?_⟩
  unfold bondKey
  rw [List.isPrefixOf_iff_prefix]
  exact List.prefix_append _ _

theorem scan_eq_own {addr : Nat → Bytes} {bs : List UBond} {name : Bytes} (h : NoClash addr bs name) :
    scanBonds addr bs name = bs.filter (fun b => b.dapp = name) := by
  unfold scanBonds
  apply List.filter_congr
  intro b hb
  by_cases hd : b.dapp = name
  · simp only [hd, decide_true]
    exact hd ▸ (List.mem_filter.mp (own_in_scan (addr := addr) hb)).2
  · simp only [hd, decide_false]
    cases hp : name.isPrefixOf (bondKey addr b)
    · rfl
    · exact absurd (h b hb hp) hd

end Sekai.Layer2
