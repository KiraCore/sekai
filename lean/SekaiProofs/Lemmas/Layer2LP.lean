import SekaiProofs.Lemmas.Layer2Held
import SekaiProofs.Lemmas.Layer2Bank
import SekaiProofs.Lemmas.Dec
/-! The keeper-level LP functions (`RedeemDappPoolTx`, `SwapDappPoolTx`, `ConvertDappPoolTx`, not reachable through the
message handlers as coded): closed forms, the escrow through keeper calls with a non-negative redemption fee amount that do not name one dApp twice in
a conversion (the recorded defect `convert-same-dapp-stale-record`) (`kopOk`, `KSafeRun`, defined here), and the arithmetic of a swap-and-redeem round trip. -/
namespace Sekai.Layer2
open Sekai

theorem collectFee_spec {b b1 : Bank} {den : Bytes} {f : Int} (h : collectFee b den f = .ok b1) :
    b1.bal .l2 den = b.bal .l2 den - (if 0 < f then f else 0) ∧ b1.supply den = b.supply den - (if 0 < f then f else 0) ∧
    ∀ a d', (a ≠ .l2 ∨ d' ≠ den) → b1.bal a d' = b.bal a d' := by
  revert h
  fun_cases collectFee b den f <;> try (intro h; cases h; done)
  next hp _ b' hb' =>     -- a positive fee: burnt from the module account
    intro h
    cases h
    obtain ⟨_, _, _, _, rfl⟩ := tkBurn_some hb'
    rw [if_pos hp]
    refine ⟨by simp [addBal_bal]; omega, by simp, fun a d' hd => ?_⟩
    rcases hd with hd | hd <;> simp [addBal_bal, hd]
  next hp =>              -- no fee: `OnCollectFee` is not called
    intro h
    cases h
    rw [if_neg hp]
    exact ⟨(Int.sub_zero _).symm, (Int.sub_zero _).symm, fun _ _ _ => rfl⟩

/-- A keeper redemption that went through, step by step. `T'` and `f` are the new total and the fee of `redeemMath` (its gross
pay-out is `d.bond - T'`); `b1 b2 b3` the bank after the fee is burnt, after the LP tokens came in, after the pay-out. The `NewCoin`
test on the pay-out is not a field: `send_some` on `payOut` says more. -/
structure KRedeemed (s s' : St) (t u : Nat) (d : Dapp) (lpDen : Bytes) (a out T' f : Int) (b1 b2 b3 : Bank) : Prop where
  lp : lpOf d.denom = lpDen
  nonzero : s.bank.supply (lpOf d.denom) + a ≠ 0
  feeBurnt : collectFee s.bank d.bondDenom f = .ok b1
  lpIn : b1.send (.user u) .l2 lpDen a = some b2
  payOut : b2.send .l2 (.user u) d.bondDenom out = some b3
  out_eq : out = d.bond - T' - f
  state : s' = { s with bank := b3, dapps := setDapp s.dapps (redeemRecord s.P t d T') }

theorem kRedeem_ok {s s' : St} {t u : Nat} {d : Dapp} {fee : Dec.D} {lpDen : Bytes} {a out : Int}
    (h : kRedeem s t u d fee lpDen a = .ok (s', out)) :
    ∃ T' f b1 b2 b3, redeemMath d.bond (s.bank.supply (lpOf d.denom)) a fee = (T', d.bond - T', f) ∧
      KRedeemed s s' t u d lpDen a out T' f b1 b2 b3 := by
  revert h
  fun_cases kRedeem s t u d fee lpDen a <;> try (intro h; cases h; done)
  next h1 h2 m b1 hb1 b2 hb2 _ b3 hb3 =>      -- the LP denom is the dApp's, no division by zero, fee, both sends and `NewCoin` pass
    intro h
    cases h
    exact ⟨m.1, m.2.2, b1, b2, b3, rfl, {
      lp := Classical.not_not.mp h1, nonzero := h2, feeBurnt := hb1, lpIn := hb2, payOut := hb3,
      out_eq := rfl, state := rfl }⟩

/-- A keeper swap that went through; `lp`, `f` are the LP amount and the LP fee of `swapMath`, `b1 b2 b3` as in `KRedeemed` (and as
there the `NewCoin` test is read off `send_some` on `lpOut`). -/
structure KSwapped (s s' : St) (u : Nat) (d : Dapp) (den : Bytes) (b out lp f : Int) (b1 b2 b3 : Bank) : Prop where
  native : den = s.P.native
  nonzero : d.bond + b ≠ 0
  feeBurnt : collectFee s.bank (lpOf d.denom) f = .ok b1
  coinsIn : b1.send (.user u) .l2 den b = some b2
  lpOut : b2.send .l2 (.user u) (lpOf d.denom) out = some b3
  out_eq : out = lp - f
  state : s' = { s with bank := b3, dapps := setDapp s.dapps (swapRecord s.P d b) }

theorem kSwap_ok {s s' : St} {u : Nat} {d : Dapp} {fee : Dec.D} {den : Bytes} {b out : Int}
    (h : kSwap s u d fee den b = .ok (s', out)) :
    ∃ lp f b1 b2 b3, swapMath d.bond (s.bank.supply (lpOf d.denom)) b fee = (lp, f) ∧ KSwapped s s' u d den b out lp f b1 b2 b3 := by
  revert h
  fun_cases kSwap s u d fee den b <;> try (intro h; cases h; done)
  next h1 h2 m b1 hb1 b2 hb2 _ b3 hb3 =>      -- native coins, no division by zero, fee, both sends and `NewCoin` pass
    intro h
    cases h
    exact ⟨m.1, m.2, b1, b2, b3, rfl, {
      native := Classical.not_not.mp h1, nonzero := h2, feeBurnt := hb1, coinsIn := hb2, lpOut := hb3, out_eq := rfl, state := rfl }⟩

theorem kConvert_ok {s s' : St} {t u : Nat} {d1 d2 : Dapp} {lpDen : Bytes} {a out : Int}
    (h : kConvert s t u d1 d2 lpDen a = .ok (s', out)) :
    ∃ s1 got, kRedeem s t u d1 (Dec.quo d1.poolFee (Dec.ofInt 2)) lpDen a = .ok (s1, got) ∧
      kSwap s1 u d2 (Dec.quo d2.poolFee (Dec.ofInt 2)) d1.bondDenom got = .ok (s', out) := by
  revert h
  fun_cases kConvert s t u d1 d2 lpDen a <;> intro h
  next => cases h                                   -- the redeem fails
  next s1 got hrd => exact ⟨s1, got, hrd, h⟩       -- the redeem went through: the answer is the swap's

theorem redeemRecord_fields (P : Params) (t : Nat) (d : Dapp) (T' : Int) :
    (redeemRecord P t d T').name = d.name ∧ (redeemRecord P t d T').bond = T' ∧ (redeemRecord P t d T').bondDenom = d.bondDenom := by
  unfold redeemRecord; split <;> exact ⟨rfl, rfl, rfl⟩

theorem swapRecord_fields (P : Params) (d : Dapp) (b : Int) :
    (swapRecord P d b).name = d.name ∧ (swapRecord P d b).bond = d.bond + b ∧ (swapRecord P d b).bondDenom = d.bondDenom ∧
    (swapRecord P d b).denom = d.denom := by
  unfold swapRecord; split <;> exact ⟨rfl, rfl, rfl, rfl⟩

theorem heldK_kRedeem {s s' : St} {t u : Nat} {d : Dapp} {fee : Dec.D} {lpDen : Bytes} {a out : Int}
    (hH : HeldK s) (hf : findDapp s.dapps d.name = some d) (hnl : NativeNotLp s.P)
    (hfee : 0 ≤ (redeemMath d.bond (s.bank.supply (lpOf d.denom)) a fee).2.2)
    (h : kRedeem s t u d fee lpDen a = .ok (s', out)) :
    s'.P = s.P ∧ HeldK s' ∧ ∀ n, n ≠ d.name → findDapp s'.dapps n = findDapp s.dapps n := by
  obtain ⟨T', f, b1, b2, b3, hm, hk⟩ := kRedeem_ok h
  obtain rfl := hk.state
  rw [hm] at hfee
  obtain ⟨rn, rb, rbd⟩ := redeemRecord_fields s.P t d T'
  refine ⟨rfl, ⟨names_setDapp_nodup hH.1, held_setDapp hH.2 (rn ▸ hf) ?_⟩,
    fun n hn => (findDapp_setDapp _ _ n).trans (if_neg (rn ▸ hn))⟩       -- the other names: get after set
  simp only [contrib, rb, rbd]
  -- the LP tokens coming in are not native; the record falls to `T'`, the module pays `d.bond − T' − f` and burns `f`
  have e2 := send_other_denom hk.lpIn .l2 s.P.native (Ne.symm (hk.lp ▸ hnl d.denom))
  have ho := hk.out_eq
  have hpay := hk.payOut
  obtain ⟨f1, _, f3⟩ := collectFee_spec hk.feeBurnt
  by_cases hbd : d.bondDenom = s.P.native
  · rw [hbd] at hpay f1
    rw [send_bal_src hpay (by simp), e2, f1]
    simp only [if_pos hbd]
    change 0 ≤ f at hfee
    split <;> omega
  · rw [send_other_denom hpay .l2 _ (Ne.symm hbd), e2, f3 _ _ (Or.inr (Ne.symm hbd))]
    simp only [if_neg hbd]
    omega

theorem heldK_kSwap {s s' : St} {u : Nat} {d : Dapp} {fee : Dec.D} {den : Bytes} {b out : Int}
    (hH : HeldK s) (hf : findDapp s.dapps d.name = some d) (hnl : NativeNotLp s.P)
    (h : kSwap s u d fee den b = .ok (s', out)) : s'.P = s.P ∧ HeldK s' := by
  obtain ⟨lp, f, b1, b2, b3, _, hk⟩ := kSwap_ok h
  obtain rfl := hk.state
  obtain ⟨rn, rb, rbd, _⟩ := swapRecord_fields s.P d b
  refine ⟨rfl, names_setDapp_nodup hH.1, held_setDapp hH.2 (rn ▸ hf) ?_⟩
  simp only [contrib, rb, rbd]
  -- the record grows by `b`, which the module receives; the LP tokens paid out and the LP fee burnt are not native
  have hlpne : lpOf d.denom ≠ s.P.native := hnl d.denom
  obtain rfl := hk.native
  rw [send_other_denom hk.lpOut .l2 _ (Ne.symm hlpne), send_bal_dst hk.coinsIn (by simp),
    (collectFee_spec hk.feeBurnt).2.2 _ _ (Or.inr (Ne.symm hlpne))]
  have := (send_some hk.coinsIn).2.1
  split <;> omega

theorem swapLp_bounds {T S b : Int} (fee : Dec.D) (hT : 0 ≤ T) (hS : 0 ≤ S) (hb : 0 < b) :
    0 ≤ (swapMath T S b fee).1 ∧ (swapMath T S b fee).1 ≤ S := by
  show 0 ≤ S - Int.tdiv (T * S) (T + b) ∧ S - Int.tdiv (T * S) (T + b) ≤ S
  rw [Int.tdiv_eq_ediv_of_nonneg (Int.mul_nonneg hT hS)]
  have h1 : 0 ≤ T * S / (T + b) := Int.ediv_nonneg (Int.mul_nonneg hT hS) (by omega)
  have h2 : T * S / (T + b) ≤ S := by
    apply Int.ediv_le_of_le_mul (by omega)
    rw [Int.mul_add, Int.mul_comm S T]
    exact Int.le_add_of_nonneg_right (Int.mul_nonneg hS (Int.le_of_lt hb))
  exact ⟨Int.sub_nonneg.mpr h2, Int.sub_le_self _ h1⟩

/-- The arithmetic heart of `no_free_money_round_trip_partial`: `b` coins were paid into the pool `(T, S)` for `L − f` LP
tokens, `f ≥ 0` burnt as fee, `hfair` is the pre-swap price. Redeeming them all from the pool `(T + b, S − f)`, the record
falls from `T + b` to `⌊(T+b)(S−f) / (S−f+L−f)⌋ ≥ T`. -/
theorem redeem_no_gain {T S b L f : Int} {fee2 : Dec.D} (hT : 0 ≤ T) (hb : 0 < b) (hf : 0 ≤ f) (hLS : L ≤ S)
    (hrecv : 0 < L - f) (hf2 : 0 ≤ fee2) (hfair : T * L ≤ b * S) :
    (redeemMath (T + b) (S - f) (L - f) fee2).2.1 - (redeemMath (T + b) (S - f) (L - f) fee2).2.2 ≤ b := by
  have hden : 0 < (S - f) + (L - f) := by omega
  have hnum : 0 ≤ (T + b) * (S - f) := Int.mul_nonneg (by omega) (by omega)
  -- burning `f` LP tokens on both sides keeps the price inequality: for `b ≤ T` because `(T − b)·f ≥ 0`, else because `L ≤ S`
  have hkey : T * (L - f) ≤ b * (S - f) := by
    by_cases hTb : b ≤ T
    · have h1 : 0 ≤ (T - b) * f := Int.mul_nonneg (by omega) hf
      rw [Int.sub_mul] at h1
      rw [Int.mul_sub, Int.mul_sub]
      omega
    · have h1 : T * (L - f) ≤ b * (L - f) := Int.mul_le_mul_of_nonneg_right (by omega) (by omega)
      have h2 : b * (L - f) ≤ b * (S - f) := Int.mul_le_mul_of_nonneg_left (by omega) (by omega)
      omega
  have hlo : T ≤ (T + b) * (S - f) / ((S - f) + (L - f)) := by
    apply (Int.le_ediv_iff_mul_le hden).mpr
    rw [Int.mul_add, Int.add_mul]
    omega
  have hhi : (T + b) * (S - f) / ((S - f) + (L - f)) ≤ T + b := by
    apply Int.ediv_le_of_le_mul hden
    rw [Int.mul_add]
    exact Int.le_add_of_nonneg_right (Int.mul_nonneg (by omega) (by omega))
  have hgross : (redeemMath (T + b) (S - f) (L - f) fee2).2.1 = (T + b) - (T + b) * (S - f) / ((S - f) + (L - f)) := by
    show (T + b) - Int.tdiv _ _ = _
    rw [Int.tdiv_eq_ediv_of_nonneg hnum]
  have hfee2 : 0 ≤ (redeemMath (T + b) (S - f) (L - f) fee2).2.2 :=
    Dec.roundMul_nonneg (n := (redeemMath (T + b) (S - f) (L - f) fee2).2.1) (by rw [hgross]; omega) hf2
  omega

/-- decidable exclusions for the keeper-level escrow theorem: the redemption fee amount is not negative (a negative
`PoolFee` would pay the trader more than the record loses) and a conversion does not name the same dApp twice
(`ConvertDappPoolTx` writes the target from a value read before the redeem) -/
def kopOk (s : St) : KOp → Bool
  | .redeem _ _ name fee _ a =>
    match findDapp s.dapps name with
    | some d => decide (0 ≤ (redeemMath d.bond (s.bank.supply (lpOf d.denom)) a fee).2.2)
    | none => true
  | .swap _ _ _ _ _ => true
  | .convert _ _ n1 n2 _ a =>
    decide (n1 ≠ n2) && match findDapp s.dapps n1 with
    | some d => decide (0 ≤ (redeemMath d.bond (s.bank.supply (lpOf d.denom)) a (Dec.quo d.poolFee (Dec.ofInt 2))).2.2)
    | none => true

def KSafeRun (s : St) : List KOp → Prop
  | [] => True
  | op :: rest => kopOk s op = true ∧ KSafeRun (kstep s op) rest

theorem heldK_kstep {s : St} {op : KOp} (hH : HeldK s) (hnl : NativeNotLp s.P) (hop : kopOk s op = true) :
    HeldK (kstep s op) ∧ (kstep s op).P = s.P := by
  unfold kstep
  split
  · rename_i s' out h
    cases op with
    | redeem t u name fee lpDen a =>
      obtain ⟨d, hf, hr⟩ := Option.map_eq_some_iff.mp h
      obtain ⟨hP, hH', _⟩ := heldK_kRedeem hH ((findDapp_some hf).2 ▸ hf) hnl (by simpa [kopOk, hf] using hop) hr
      exact ⟨hH', hP⟩
    | swap u name fee den b =>
      obtain ⟨d, hf, hr⟩ := Option.map_eq_some_iff.mp h
      obtain ⟨hP, hH'⟩ := heldK_kSwap hH ((findDapp_some hf).2 ▸ hf) hnl hr
      exact ⟨hH', hP⟩
    | convert t u n1 n2 lpDen a =>
      simp only [kapply] at h
      split at h
      · rename_i d1 d2 hf1 hf2
        obtain ⟨s1, got, hrd, hsw⟩ := kConvert_ok (Option.some.inj h)
        simp only [kopOk, hf1, Bool.and_eq_true, decide_eq_true_eq] at hop
        obtain ⟨_, hn1⟩ := findDapp_some hf1
        obtain ⟨_, hn2⟩ := findDapp_some hf2
        obtain ⟨hP1, hH1, hkeep⟩ := heldK_kRedeem hH (hn1 ▸ hf1) hnl hop.2 hrd
        -- the target record is still the one read before the redeem, because the names differ
        have hf2' : findDapp s1.dapps n2 = some d2 := (hkeep n2 (hn1 ▸ Ne.symm hop.1)).trans hf2
        obtain ⟨hP2, hH2⟩ := heldK_kSwap hH1 (hn2 ▸ hf2') (hP1 ▸ hnl) hsw
        exact ⟨hH2, hP2.trans hP1⟩
      · cases h
  · exact ⟨hH, rfl⟩

theorem heldK_krun (ops : List KOp) {s : St} (hH : HeldK s) (hnl : NativeNotLp s.P) (hs : KSafeRun s ops) : HeldK (krun s ops) := by
  induction ops generalizing s with
  | nil => exact hH
  | cons op rest ih =>
    obtain ⟨hop, hrest⟩ := hs
    obtain ⟨h1, h2⟩ := heldK_kstep hH hnl hop
    exact ih h1 (h2 ▸ hnl) hrest

end Sekai.Layer2

-- its name is the property file's (`Props/C20` decides its closed `KSafeRun` witnesses with it)
namespace Sekai.Props.C20
open Sekai.Layer2

instance KSafeRun.dec : (s : St) → (ops : List KOp) → Decidable (KSafeRun s ops)
  | _, [] => isTrue trivial
  | s, op :: rest => @instDecidableAnd _ _ _ (KSafeRun.dec (kstep s op) rest)

end Sekai.Props.C20

