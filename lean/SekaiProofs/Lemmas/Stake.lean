import Sekai.Model.Stake
/-! `Step` is the graph of `Sekai.Stake.step` — for which operation and state it succeeds, and the result as a closed term — so that
a theorem about one step (C05, C15) is a case analysis on `Step` (`Step.of_step`) and never unfolds `step` again; `Step.to_step`, the
converse, exhibits a step. Then the three equations of `stepC`, and the frame of one step: `FrameAt`, `Step.frame`. -/
namespace Sekai.Stake

@[simp] theorem upd_same {α} (f : Nat → α) (v : Nat) (x : α) : upd f v x v = x := by simp [upd]
@[simp] theorem upd_other {α} (f : Nat → α) {v w : Nat} (x : α) (h : w ≠ v) : upd f v x w = f w := by simp [upd, h]

theorem sigCounters_signed (p : Params) (s : S) (v : Nat) : (sigCounters p s v true).mis = 0 := by
  simp [sigCounters]

inductive Step (p : Params) (s : S) : Op → S → Prop
  | pause {v} : ¬ (p.nVals ≤ p.minValidators ∨ p.nVals ≤ 1) → s.status v = .active →
      Step p s (.msgPause v) (demote s v .paused)
  | unpause {v} : s.status v = .paused → Step p s (.msgUnpause v) (promote s v)
  | activate {v now} : s.status v = .inactive → ¬ now < s.inactiveUntil v →
      Step p s (.msgActivate v now) { promote s v with mischance := upd s.mischance v 0, conf := upd s.conf v 0 }
  | sig {v signed now} : s.status v = .active → ¬ (sigCounters p s v signed).mis > p.maxMischance →
      Step p s (.sig v signed now)
        { s with mischance := upd s.mischance v (sigCounters p s v signed).mis,
                 conf := upd s.conf v (sigCounters p s v signed).conf,
                 rank := upd s.rank v (sigCounters p s v signed).rank,
                 streak := upd s.streak v (sigCounters p s v signed).streak }
  | sigDown {v signed now} : s.status v = .active → (sigCounters p s v signed).mis > p.maxMischance →
      Step p s (.sig v signed now)
        { demote s v .inactive with
            mischance := upd s.mischance v (sigCounters p s v signed).mis,
            conf := upd s.conf v (sigCounters p s v signed).conf,
            rank := upd (upd s.rank v (sigCounters p s v signed).rank) v
              (Dec.roundInt (Dec.mul (Dec.ofInt (sigCounters p s v signed).rank) (Dec.one - p.inactiveRankPct))),
            streak := upd (upd s.streak v (sigCounters p s v signed).streak) v 0,
            inactiveUntil := upd s.inactiveUntil v (now + p.downtimeInactive) }
  | sigSkip {v signed now} : s.status v ≠ .active → Step p s (.sig v signed now) s
  | jail {v now} : s.status v ≠ .jailed →
      Step p s (.jail v now) { demote s v .jailed with jailTime := upd s.jailTime v (some now) }
  | jailSkip {v now} : s.status v = .jailed → Step p s (.jail v now) s
  | evidence {v now} : s.status v ≠ .jailed →
      Step p s (.evidence v now true false)
        { demote s v .jailed with jailTime := upd s.jailTime v (some now), inactiveUntil := upd s.inactiveUntil v now }
  | evidenceJailed {v now} : s.status v = .jailed →
      Step p s (.evidence v now true false) { s with inactiveUntil := upd s.inactiveUntil v now }
  | evidenceSkip {v now known stale} : ¬ (known = true ∧ stale = false) → Step p s (.evidence v now known stale) s
  | unjail {v now jt} : s.status v = .jailed → s.jailTime v = some jt → ¬ jt + p.unjailMaxTime < now →
      Step p s (.unjail v now) { s with status := upd s.status v .inactive, jailTime := upd s.jailTime v none }
  | kPause {v} : s.status v ≠ .inactive → Step p s (.kPause v) (demote s v .paused)
  | kPauseSkip {v} : s.status v = .inactive → Step p s (.kPause v) s
  | rankReset : Step p s .rankReset
      { s with status := fun _ => .active, rank := fun _ => 0, streak := fun _ => 0,
               mischance := fun _ => 0, conf := fun _ => 0, inactiveUntil := fun _ => 0 }

theorem Step.of_step {p : Params} {s s' : S} {op : Op} (h : step p s op = some s') : Step p s op s' := by
  fun_cases step p s op
  all_goals simp only [step, *, if_true, if_false] at h
  -- failing branches: `h : none = some s'`; what is left are the succeeding ones, the result put in for `s'`,
  -- in the order of the definition
  all_goals try cases h
  next _ hn ha => exact .pause hn ha                -- msgPause: more validators than the minimum, active
  next _ hp => exact .unpause hp                    -- msgUnpause: paused
  next _ _ hi hle => exact .activate hi hle         -- msgActivate: inactive, `inactiveUntil` has passed
  next _ _ _ ha =>                                  -- sig, active: past the mischance limit or not
    simp only [sigActive]
    split
    · rename_i hm; exact .sigDown ha hm      -- past it: inactivated as well
    · rename_i hm; exact .sig ha hm          -- not past it: the counters are written
  next _ _ _ hn => exact .sigSkip hn                -- sig, not active: ignored
  next _ _ hj => exact .jailSkip hj                 -- jail, jailed already: nothing happens
  next _ _ hn => exact .jail hn                     -- jail
  next _ _ _ _ hk hj => obtain ⟨rfl, rfl⟩ := hk; exact .evidenceJailed hj   -- usable evidence, jailed already
  next _ _ _ _ hk hn => obtain ⟨rfl, rfl⟩ := hk; exact .evidence hn         -- usable evidence
  next _ _ _ _ hk => exact .evidenceSkip hk         -- unusable evidence: ignored
  next _ _ _ hjt hj hle => exact .unjail hj hjt hle -- unjail: jailed, not later than `unjailMaxTime` after the jailing
  next _ hi => exact .kPauseSkip hi                 -- keeper Pause, inactive: the error is ignored
  next _ hn => exact .kPause hn                     -- keeper Pause
  exact .rankReset

theorem Step.to_step {p : Params} {s s' : S} {op : Op} (h : Step p s op s') : step p s op = some s' := by
  -- where the guard is `≠`, `simp` takes it from the context to get past the match's other arm
  cases h with
  | pause hn ha => simp only [step, hn, ha, if_false]
  | unpause hp => simp only [step, hp]
  | activate hi hle => simp only [step, hi, hle, if_false]
  | sig ha hm => simp only [step, ha, sigActive, hm, if_false]
  | sigDown ha hm => simp only [step, ha, sigActive, hm, if_true, demote]
  | sigSkip hn => simp only [step]
  | jail hn => simp only [step]
  | jailSkip hj => simp only [step, hj]
  | evidence hn => simp only [step, and_self, if_true]
  | evidenceJailed hj => simp only [step, hj, and_self, if_true]
  | evidenceSkip hk => simp only [step, hk, if_false]
  | unjail hj hjt hle => simp only [step, hj, hjt, hle, if_false]
  | kPause hn => simp only [step]
  | kPauseSkip hi => simp only [step, hi]
  | rankReset => rfl

theorem stepC_claim (p : Params) (s : S) (v : Nat) :
    stepC p s (.claim v) = if s.claimed v then none else some { s with P := upd s.P v true } := rfl

theorem stepC_rankReset (p : Params) (s : S) :
    stepC p s (.base .rankReset) =
      some { s with status := fun v => if s.claimed v then .active else s.status v, rank := fun _ => 0,
                    streak := fun _ => 0, mischance := fun _ => 0, conf := fun _ => 0, inactiveUntil := fun _ => 0 } := rfl

theorem stepC_sub (p : Params) (s : S) {op : Op} {v : Nat} (hsub : subject op = some v) :
    stepC p s (.base op) = if s.claimed v then step p s op else if isMsg op then none else some s := by
  cases op <;> cases hsub <;> rfl

/-- `s'` differs from `s` in status, queues and consensus-set bit at most at validator `v`, and not at all in the
record / pending bookkeeping. A definition and not a structure on purpose: it unfolds to a statement about projections, so
`FrameAt.demote s v st` is also the frame of `{ demote s v st with jailTime := … }`, whose projections are the same by `rfl`
(`Step.frame` closes most of its cases this way). -/
def FrameAt (v : Nat) (s s' : S) : Prop :=
  (∀ w, w ≠ v → s'.status w = s.status w ∧ s'.V w = s.V w ∧ s'.R w = s.R w ∧ s'.A w = s.A w) ∧
  s'.claimed = s.claimed ∧ s'.P = s.P

theorem FrameAt.refl (v : Nat) (s : S) : FrameAt v s s := ⟨fun _ _ => ⟨rfl, rfl, rfl, rfl⟩, rfl, rfl⟩

theorem FrameAt.demote (s : S) (v : Nat) (st : Status) : FrameAt v s (demote s v st) :=
  ⟨fun w hw => by simp [Stake.demote, hw], rfl, rfl⟩

theorem FrameAt.promote (s : S) (v : Nat) : FrameAt v s (promote s v) :=
  ⟨fun w hw => by simp [Stake.promote, hw], rfl, rfl⟩

theorem Step.frame {p : Params} {s s' : S} {op : Op} {v : Nat} (h : Step p s op s') (hsub : subject op = some v) :
    FrameAt v s s' := by
  cases h with
  | rankReset => cases hsub
  | pause _ _ => cases hsub; exact .demote s v _
  | unpause _ => cases hsub; exact .promote s v
  | activate _ _ => cases hsub; exact .promote s v
  | sig _ _ => cases hsub; exact .refl v s
  | sigDown _ _ => cases hsub; exact .demote s v _
  | jail _ => cases hsub; exact .demote s v _
  | evidence _ => cases hsub; exact .demote s v _
  | unjail _ _ _ => cases hsub; exact ⟨fun w hw => by simp [hw], rfl, rfl⟩
  | kPause _ => cases hsub; exact .demote s v _
  | sigSkip _ | jailSkip _ | evidenceJailed _ | evidenceSkip _ | kPauseSkip _ => exact .refl v s

end Sekai.Stake
