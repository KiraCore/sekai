import SekaiProofs.Lemmas.IdentEscrow
import SekaiProofs.Lemmas.IdentUniq
import SekaiProofs.Lemmas.IdentVerif
/-! Well-formedness of the registry (`WFcore`: index entries and requests point to live records of their address, requests
are in the requester index, record ids are at most the counter, keys lower-case) and the ownership relation between two
states (`OwnerOnly`, `OpFrame`); `WF_f` says that keeper function `f` keeps `WFcore` (some need `ReqWF` as well), and what
else it then guarantees; `WFr = WFcore ∧ ReqWF`.
`WFcore` is NOT kept by a rotation: the index entries of the old address survive it and point to records of the new
address, which breaks `IdxLive`; hence `isRotate = false` in `WF_apply`, `WFr_step`, `WFr_run`. `ReqWF` is no field of
`WFcore` for that reason: every message keeps it, rotations included (it travels in `ReqStep.wf`, and `EscInv` needs it
without exclusions). -/
namespace Sekai.Ident

/-- what an owner "holds": everything of a record except its verifier list -/
def content (r : Record) : Nat × Nat × String × String × Nat := (r.id, r.addr, r.key, r.value, r.date)

def IdxLive (S : State) : Prop := ∀ e ∈ S.idx, ∃ r, getRec S e.id = some r ∧ r.addr = e.addr ∧ r.key = e.key
def RecBounded (S : State) : Prop := ∀ r ∈ S.records, r.id ≤ S.lastRecordId
def ReqLive (S : State) : Prop := ∀ q ∈ S.reqs, ∀ id ∈ q.recordIds, ∃ r, getRec S id = some r ∧ r.addr = q.addr
def ReqIdx (S : State) : Prop := ∀ q ∈ S.reqs, (q.addr, q.id) ∈ S.byReq

structure WFcore (S : State) : Prop where
  idxLive : IdxLive S
  recBounded : RecBounded S
  keysLower : KeysLower S
  reqLive : ReqLive S
  reqIdx : ReqIdx S

/-- between `S` and `S'` only `s` has edited: for every record id the content `(id, address, key, value, date)` is
unchanged, or the record belonged to `s` before - if it existed - and belongs to `s` after - if it exists -/
def OwnerOnly (s : Nat) (S S' : State) : Prop :=
  ∀ id, (getRec S' id).map content = (getRec S id).map content ∨
    ((∀ r, getRec S id = some r → r.addr = s) ∧ (∀ r', getRec S' id = some r' → r'.addr = s))

theorem map_content_some {x y : Option Record} (h : x.map content = y.map content) {r : Record} (hy : y = some r) :
    ∃ r2, x = some r2 ∧ content r2 = content r := by
  subst hy
  cases x with
  | none => simp at h
  | some r2 => exact ⟨r2, rfl, by simpa using h⟩

theorem OwnerOnly.trans {s : Nat} {A B C : State} (h1 : OwnerOnly s A B) (h2 : OwnerOnly s B C) : OwnerOnly s A C := by
  intro id
  rcases h1 id with e1 | ⟨p1, q1⟩ <;> rcases h2 id with e2 | ⟨p2, q2⟩
  · exact Or.inl (e2.trans e1)
  · right
    refine ⟨?_, q2⟩
    intro r hr
    obtain ⟨rB, hB, hc⟩ := map_content_some e1 hr
    have := p2 rB hB
    have hc' : rB.addr = r.addr := by unfold content at hc; simp only [Prod.mk.injEq] at hc; exact hc.2.1
    rw [← hc']; exact this
  · right
    refine ⟨p1, ?_⟩
    intro r' hr'
    obtain ⟨rB, hB, hc⟩ := map_content_some e2.symm hr'
    have := q1 rB hB
    have hc' : rB.addr = r'.addr := by unfold content at hc; simp only [Prod.mk.injEq] at hc; exact hc.2.1
    rw [← hc']; exact this
  · exact Or.inr ⟨p1, q2⟩

theorem OwnerOnly.of_recs {s : Nat} {S S' : State} (h : S'.records = S.records) : OwnerOnly s S S' :=
  fun id => Or.inl (by rw [getRec_congr h])

theorem WFcore_drop {S S' : State} (h : WFcore S) (h1 : S'.records = S.records) (h2 : S'.idx = S.idx)
    (h3 : S'.lastRecordId = S.lastRecordId) (sub : ∀ q ∈ S'.reqs, q ∈ S.reqs) (hi : ReqIdx S') : WFcore S' := by
  exact {
    idxLive := fun e he => by rw [h2] at he; rw [getRec_congr h1]; exact h.idxLive e he
    recBounded := fun r hr => by rw [h1] at hr; rw [h3]; exact h.recBounded r hr
    keysLower := fun r hr => by rw [h1] at hr; exact h.keysLower r hr
    reqLive := fun q hq id hid => by rw [getRec_congr h1]; exact h.reqLive q (sub q hq) id hid
    reqIdx := hi }

theorem WFcore_congr {S S' : State} (h : WFcore S) (records : S'.records = S.records) (idx : S'.idx = S.idx)
    (lastRecordId : S'.lastRecordId = S.lastRecordId) (reqs : S'.reqs = S.reqs) (byReq : S'.byReq = S.byReq) : WFcore S' :=
  WFcore_drop h records idx lastRecordId (fun q hq => by rw [reqs] at hq; exact hq)
    (fun q hq => by rw [reqs] at hq; rw [byReq]; exact h.reqIdx q hq)

theorem WF_putRecord {S : State} {r : Record} (h : WFcore S) (hl : lower r.key = r.key)
    (hc : ∀ r0, getRec S r.id = some r0 → r0.addr = r.addr ∧ r0.key = r.key) (hb : r.id ≤ S.lastRecordId) :
    WFcore (putRecord S r) ∧ OwnerOnly r.addr S (putRecord S r) := by
  have hr' := formalised_eq hl
  constructor
  · refine { idxLive := ?idxLive, recBounded := ?recBounded, keysLower := ?keysLower, reqLive := ?reqLive,
             reqIdx := fun q hq => h.reqIdx q hq }
    case idxLive =>
      intro e he
      simp only [putRecord, List.mem_cons, List.mem_filter] at he
      rw [getRec_putRecord, hr']
      rcases he with e1 | ⟨hm, hf⟩
      · subst e1; simp [hl]
      · by_cases hid : r.id = e.id
        · obtain ⟨r0, h0, ha, hk⟩ := h.idxLive e hm
          rw [← hid] at h0
          obtain ⟨ha', hk'⟩ := hc r0 h0
          simp [← ha, ← hk, ha', hk', hl] at hf
        · simp only [if_neg hid]; exact h.idxLive e hm
    case recBounded =>
      intro x hx
      show x.id ≤ S.lastRecordId
      rcases mem_putRecord hx with e | ⟨hm, _⟩
      · rw [e]; exact hb
      · exact h.recBounded x hm
    case keysLower =>
      intro x hx
      rcases mem_putRecord hx with e | ⟨hm, _⟩
      · rw [e]; exact lower_idem _
      · exact h.keysLower x hm
    case reqLive =>
      intro q hq id hid
      change q ∈ S.reqs at hq
      rw [getRec_putRecord, hr']
      obtain ⟨r0, h0, ha⟩ := h.reqLive q hq id hid
      by_cases e : r.id = id
      · simp only [if_pos e]
        rw [← e] at h0
        exact ⟨r, rfl, by rw [← (hc r0 h0).1]; exact ha⟩
      · simp only [if_neg e]; exact ⟨r0, h0, ha⟩
  · intro id
    rw [getRec_putRecord, hr']
    by_cases e : r.id = id
    · right
      simp only [if_pos e]
      refine ⟨?_, ?_⟩
      · intro r0 h0; rw [← e] at h0; exact (hc r0 h0).1
      · intro r2 h2; cases h2; rfl
    · left; simp [e]

theorem mem_ite_append {x : Nat} {l : List Nat} (c : Prop) [Decidable c] (j : Nat) (h : x ∈ l) :
    x ∈ if c then l ++ [j] else l := by
  split
  · exact List.mem_append_left _ h
  · exact h

theorem WF_regApply {a : Nat} {infos : List Info} {S S' : State} {aff aff' : List Nat}
    (hl : ∀ i ∈ infos, lower i.key = i.key) (h : WFcore S)
    (hr : regApply a infos S aff = some (S', aff')) :
    WFcore S' ∧ OwnerOnly a S S' ∧ (∀ x ∈ aff, x ∈ aff') ∧
    (∀ id r r', getRec S id = some r → getRec S' id = some r' → r.value ≠ r'.value → id ∈ aff') := by
  induction infos generalizing S aff with
  | nil =>
    cases hr
    exact ⟨h, OwnerOnly.of_recs rfl, fun _ hx => hx, fun id r r' h1 h2 hne => by rw [h1] at h2; cases h2; exact absurd rfl hne⟩
  | cons i rest ih =>
    have hli : lower i.key = i.key := hl i List.mem_cons_self
    obtain ⟨n, id, aff1, hcase, _, hr⟩ := regApply_cons hr
    -- the record is written over nothing (fresh id) or over the record the index names, which has this address and key
    have hput : WFcore { S with lastRecordId := n } ∧ id ≤ n ∧ (∀ x ∈ aff, x ∈ aff1) ∧
        ∀ r0, getRec S id = some r0 → r0.addr = a ∧ r0.key = i.key ∧ (r0.value ≠ i.value → id ∈ aff1) := by
      rcases hcase with ⟨_, rfl, rfl, rfl⟩ | ⟨h0, rfl, rfl, rfl⟩
      · refine ⟨⟨h.idxLive, fun r hr => Nat.le_succ_of_le (h.recBounded r hr), h.keysLower, h.reqLive, h.reqIdx⟩,
          Nat.le_refl _, fun _ hx => hx, fun r0 h0 => ?_⟩
        have := h.recBounded r0 (getRec_mem h0).1
        have := (getRec_mem h0).2
        omega
      · obtain ⟨e, he, hea, hek, heid⟩ := idxGetK_spec rfl h0
        obtain ⟨r0, hr0, hra, hrk⟩ := h.idxLive e he
        rw [heid] at hr0
        rw [hli] at hek
        refine ⟨h, ?_, fun x hx => ?_, fun r1 hr1 => ?_⟩
        · have := h.recBounded r0 (getRec_mem hr0).1
          have := (getRec_mem hr0).2
          omega
        · exact mem_ite_append _ _ hx
        · rw [hr0] at hr1; cases hr1
          refine ⟨hra.trans hea, hrk.trans hek, fun hv => ?_⟩
          have : (r0.value != i.value) = true := by simpa using hv
          simp [hr0, this]
    obtain ⟨w0, hb, sub0, hc⟩ := hput
    obtain ⟨w2, o2⟩ := WF_putRecord (S := { S with lastRecordId := n }) (r := ⟨id, a, i.key, i.value, S.now, []⟩) w0 hli
      (fun r0 h0 => ⟨(hc r0 h0).1, (hc r0 h0).2.1⟩) hb
    obtain ⟨w, o, sub, val⟩ := ih (fun j hj => hl j (List.mem_cons_of_mem _ hj)) w2 hr
    refine ⟨w, OwnerOnly.trans (A := S) o2 o, fun x hx => sub x (sub0 x hx), ?_⟩
    intro id' r r' h1 h2 hne
    by_cases hid : id = id'
    · subst hid
      by_cases hv : r.value = i.value
      · refine val id ⟨id, a, lower i.key, i.value, S.now, []⟩ r' ?_ h2 (by rw [← hv]; exact hne)
        rw [getRec_putRecord]; simp
      · exact sub id ((hc r h1).2.2 hv)
    · refine val id' r r' ?_ h2 hne
      rw [getRec_putRecord]
      simp only [if_neg hid]; exact h1

theorem ReqIdx_deleteReq {S : State} (d : Nat) (hi : ReqIdx S) : ReqIdx (deleteReq S d) := by
  intro q hq
  rw [deleteReq_reqs] at hq
  obtain ⟨hm, hne⟩ := List.mem_filter.mp hq
  have hne' : q.id ≠ d := by simpa using hne
  unfold deleteReq
  cases hd : getReq S d with
  | none => exact hi q hm
  | some q0 =>
    simp only [List.mem_filter]
    refine ⟨hi q hm, ?_⟩
    simp [hne']

theorem WF_deleteReq {S : State} (d : Nat) (h : WFcore S) : WFcore (deleteReq S d) :=
  have f := deleteReq_recFrame S d
  WFcore_drop h f.records f.idx f.lastRecordId (fun q hq => by rw [deleteReq_reqs] at hq; exact (List.mem_filter.mp hq).1)
    (ReqIdx_deleteReq d h.reqIdx)

theorem ReqIdx_cancelReq {S S' : State} {a id : Nat} (hi : ReqIdx S) (hc : cancelReq S a id = some S') :
    ReqIdx S' ∧ S'.reqs = S.reqs.filter (fun x => x.id != id) := by
  obtain ⟨q, S1, _, _, hpay, rfl⟩ := cancelReq_some hc
  obtain ⟨⟨b, e, rfl⟩, _⟩ := payTip_some hpay
  exact ⟨ReqIdx_deleteReq (S := { S with bal := b, escrow := e }) id hi, deleteReq_reqs _ _⟩

/-- every surviving request of `a` touches none of `ids`. The loop walks the SNAPSHOT `reqIdsOf S a`: `ReqIdx` puts every
request of `a` into that snapshot, `ReqWF` (ids pairwise different) makes the request read at `rid` the only one with that
id, and a cancelled request never comes back (`sub'`). -/
theorem cancelInvalid_survivors {S S' : State} {a : Nat} {ids : List Nat} (hw : ReqWF S) (hi : ReqIdx S)
    (hc : cancelInvalid S a ids = some S') :
    ReqIdx S' ∧ (∀ q ∈ S'.reqs, q ∈ S.reqs) ∧ (∀ q ∈ S'.reqs, q.addr = a → touches ids q = false) := by
  have key : ∀ rids {S : State}, ReqWF S → ReqIdx S → cancelInvalidLoop a ids rids S = some S' →
      ReqIdx S' ∧ (∀ q ∈ S'.reqs, q ∈ S.reqs) ∧ (∀ q ∈ S.reqs, q.id ∈ rids → touches ids q = true → q ∉ S'.reqs) := by
    intro rids
    induction rids with
    | nil => intro S _ hi hc; cases hc; exact ⟨hi, fun _ h => h, fun _ _ h => by cases h⟩
    | cons rid rest ih =>
      intro S hw hi hc
      obtain ⟨q0, S1, hq0, h1 | h1, hr⟩ := cancelInvalidLoop_cons hc
      · obtain ⟨i1, e1⟩ := ReqIdx_cancelReq hi h1.2
        obtain ⟨i', sub', gone'⟩ := ih ((cancelReq_reqStep h1.2).wf hw) i1 hr
        have sub1 : ∀ q ∈ S'.reqs, q ∈ S.reqs ∧ q.id ≠ rid := by
          intro q hq
          have := sub' q hq
          rw [e1] at this
          exact ⟨(List.mem_filter.mp this).1, by simpa using (List.mem_filter.mp this).2⟩
        refine ⟨i', fun q hq => (sub1 q hq).1, ?_⟩
        intro q hq hid ht' hin
        by_cases e : q.id = rid
        · exact (sub1 q hin).2 e
        · refine gone' q ?_ ((List.mem_cons.mp hid).resolve_left e) ht' hin
          rw [e1]; exact List.mem_filter.mpr ⟨hq, by simpa using e⟩
      · obtain ⟨ht, rfl⟩ := h1
        obtain ⟨i', sub', gone'⟩ := ih hw hi hr
        refine ⟨i', sub', ?_⟩
        intro q hq hid ht'
        by_cases e : q.id = rid
        · -- `q` is the request read at `rid`, which does not touch the ids
          have : getReq S1 q.id = some q := getReq_of_mem hw hq
          rw [e, hq0] at this; cases this
          rw [ht] at ht'; cases ht'
        · exact gone' q hq ((List.mem_cons.mp hid).resolve_left e) ht'
  obtain ⟨i', sub', gone'⟩ := key _ hw hi hc
  refine ⟨i', sub', ?_⟩
  intro q hq ha
  cases ht : touches ids q with
  | false => rfl
  | true =>
    have hin := sub' q hq
    have hb := hi q hin
    rw [ha] at hb
    have : q.id ∈ reqIdsOf S a := by
      unfold reqIdsOf
      simp only [List.mem_map, List.mem_filter]
      exact ⟨(a, q.id), ⟨hb, by simp⟩, rfl⟩
    exact absurd hq (gone' q hin this ht)

theorem WF_registerRecords {S S' : State} {a : Nat} {infos : List Info} (h : WFcore S) (hw : ReqWF S)
    (hr : registerRecords S a infos = some S') :
    WFcore S' ∧ OwnerOnly a S S' ∧
    (∀ id r r', getRec S id = some r → getRec S' id = some r' → r.value ≠ r'.value →
      ∀ q ∈ S'.reqs, id ∉ q.recordIds) := by
  obtain ⟨infos', S1, aff, hc, ha, hi⟩ := registerRecords_some hr
  obtain ⟨w1, o1, _, val1⟩ := WF_regApply (regCheck_lower hc) h ha
  have hw1 : ReqWF S1 := (regApply_reqFrame ha).esc.reqStep.wf hw
  have f := cancelInvalid_recFrame hi
  obtain ⟨i', sub', surv⟩ := cancelInvalid_survivors hw1 w1.reqIdx hi
  refine ⟨WFcore_drop w1 f.records f.idx f.lastRecordId sub' i', OwnerOnly.trans o1 (OwnerOnly.of_recs f.records), ?_⟩
  -- a record whose value changed is in `aff` and belongs to `a`, so every request of `a` that names it was cancelled;
  -- a request that names it is a request of its owner
  intro id r r' h1 h2 hne q hq hid
  rw [f.getRec] at h2
  have haff : id ∈ aff := val1 id r r' h1 h2 hne
  obtain ⟨r1, hr1, hadr⟩ := w1.reqLive q (sub' q hq) id hid
  rw [h2] at hr1; cases hr1
  have hown : r'.addr = a := by
    rcases o1 id with e | ⟨_, post⟩
    · rw [h1, h2] at e
      simp only [Option.map_some, Option.some.injEq, content, Prod.mk.injEq] at e
      exact absurd e.2.2.2.1.symm hne
    · exact post r' h2
  have := surv q hq (hadr.symm.trans hown)
  rw [touches_of_mem hid haff] at this
  cases this

theorem WF_deleteRecords {S S' : State} {a : Nat} {keys : List String} (h : WFcore S) (hw : ReqWF S)
    (hd : deleteRecords S a keys = some S') :
    WFcore S' ∧ OwnerOnly a S S' ∧
    (∀ id r, getRec S id = some r → getRec S' id = none → keys.isEmpty = true ∨ r.key ∈ keys.map lower) := by
  have g' := deleteRecords_getRec hd
  obtain ⟨_, S2, hl, hc⟩ := deleteRecords_some hd
  generalize hids : (S.idx.filter (delSel a keys)).map (·.id) = ids at g' hl hc
  obtain ⟨i2, l2, _, m2⟩ := deleteLoop_spec hl
  have fr := deleteLoop_reqFrame hl
  have f := cancelInvalid_recFrame hc
  have hi2 : ReqIdx S2 := by intro q hq; rw [fr.reqs] at hq; rw [fr.byReq]; exact h.reqIdx q hq
  obtain ⟨i', sub', surv⟩ := cancelInvalid_survivors (fr.esc.reqStep.wf hw) hi2 hc
  -- every deleted id is reached through a selected index entry, so it is a record of `a` under a named key
  have hown : ∀ id ∈ ids, ∀ r, getRec S id = some r → r.addr = a ∧ (keys.isEmpty = true ∨ r.key ∈ keys.map lower) := by
    intro id hid r hr
    rw [← hids] at hid
    obtain ⟨e, he, rfl⟩ := List.mem_map.mp hid
    obtain ⟨he, hs⟩ := List.mem_filter.mp he
    obtain ⟨r0, hr0, ha0, hk0⟩ := h.idxLive e he
    rw [hr] at hr0; cases hr0
    simp only [delSel, Bool.and_eq_true, Bool.or_eq_true, beq_iff_eq, List.contains_eq_mem, decide_eq_true_eq] at hs
    exact ⟨ha0.trans hs.1, hs.2.imp id (fun h1 => by rw [hk0]; exact h1)⟩
  -- an entry that is not selected points to a record that stays: its record has the entry's address and key
  have hrest : ∀ e ∈ S.idx, delSel a keys e = false → e.id ∉ ids := by
    intro e he hs hin
    rw [← hids] at hin
    obtain ⟨e0, he0, hid0⟩ := List.mem_map.mp hin
    obtain ⟨he0, hs0⟩ := List.mem_filter.mp he0
    obtain ⟨r, hr, ha, hk⟩ := h.idxLive e he
    obtain ⟨r0, hr0, ha0, hk0⟩ := h.idxLive e0 he0
    rw [hid0, hr] at hr0; cases hr0
    have : delSel a keys e = delSel a keys e0 := by simp [delSel, ha.symm.trans ha0, hk.symm.trans hk0]
    rw [hs, hs0] at this; cases this
  refine ⟨{ idxLive := ?idxLive, recBounded := ?recBounded, keysLower := ?keysLower, reqLive := ?reqLive, reqIdx := i' },
    ?ownerOnly, ?namedKey⟩
  case idxLive =>
    intro e he
    rw [f.idx, i2] at he
    obtain ⟨hm, hs⟩ := List.mem_filter.mp he
    rw [g' e.id, if_neg (hrest e hm (by simpa using hs))]
    exact h.idxLive e hm
  case recBounded =>
    intro r hr
    rw [f.records] at hr; rw [f.lastRecordId, l2]
    exact h.recBounded r (m2 r hr)
  case keysLower =>
    intro r hr
    rw [f.records] at hr
    exact h.keysLower r (m2 r hr)
  case reqLive =>
    intro q hq id hid
    have hq2 := sub' q hq
    rw [fr.reqs] at hq2
    obtain ⟨r, hr, ha⟩ := h.reqLive q hq2 id hid
    by_cases hin : id ∈ ids
    · -- a request of `a` that names a deleted record was cancelled
      have := surv q hq (ha.symm.trans (hown id hin r hr).1)
      rw [touches_of_mem hid hin] at this; cases this
    · rw [g' id, if_neg hin]; exact ⟨r, hr, ha⟩
  case ownerOnly =>
    intro id
    by_cases hin : id ∈ ids
    · right
      refine ⟨fun r hr => (hown id hin r hr).1, fun r' hr' => ?_⟩
      rw [g' id, if_pos hin] at hr'; cases hr'
    · left; rw [g' id, if_neg hin]
  case namedKey =>
    intro id r hr hnone
    rw [g' id] at hnone
    split at hnone
    · rename_i hin; exact (hown id hin r hr).2
    · rw [hr] at hnone; cases hnone

theorem WF_cancelReq {S S' : State} {a id : Nat} (h : WFcore S) (hc : cancelReq S a id = some S') : WFcore S' := by
  obtain ⟨q, S1, _, _, hpay, rfl⟩ := cancelReq_some hc
  obtain ⟨⟨b, e, rfl⟩, _⟩ := payTip_some hpay
  exact WF_deleteReq _ (WFcore_congr h rfl rfl rfl rfl rfl)

theorem WF_requestVerify {S S' : State} {a v : Nat} {ids : List Nat} {d n : Nat} (h : WFcore S) (hw : ReqWF S)
    (hr : requestVerify S a v ids d n = some S') : WFcore S' := by
  obtain ⟨hown, le, _, _, ht⟩ := requestVerify_some hr
  obtain ⟨⟨b, e, rfl⟩, _⟩ := takeTip_some ht
  refine { idxLive := h.idxLive, recBounded := h.recBounded, keysLower := h.keysLower, reqLive := ?reqLive, reqIdx := ?reqIdx }
  case reqLive =>
    intro q hq id hid
    change q ∈ (setReq S _).reqs at hq
    show ∃ r, getRec S id = some r ∧ r.addr = q.addr
    rcases mem_setReq hq with e | ⟨hm, _⟩
    · subst e
      obtain ⟨e0, he0, ha0, hid0⟩ := hown id hid
      obtain ⟨r, hr', hra, _⟩ := h.idxLive e0 he0
      rw [hid0] at hr'
      exact ⟨r, hr', hra.trans ha0⟩
    · exact h.reqLive q hm id hid
  case reqIdx =>
    intro q hq
    change q ∈ (setReq S _).reqs at hq
    show (q.addr, q.id) ∈ (setReq S _).byReq
    simp only [setReq, List.mem_cons, List.mem_filter]
    rcases mem_setReq hq with e | ⟨hm, hne⟩
    · left; rw [e]
    · right
      refine ⟨h.reqIdx q hm, ?_⟩
      have : q.id ≠ S.lastReqId + 1 := by have := hw.2 q hm; omega
      simp [this]

theorem WF_approveLoop {v : Nat} {ids : List Nat} {S S' : State} (h : WFcore S)
    (ha : approveLoop v ids S = some S') :
    WFcore S' ∧ ∀ id, (getRec S' id).map content = (getRec S id).map content := by
  refine approveLoop_rel
    (R := fun A B => WFcore A → WFcore B ∧ ∀ id, (getRec B id).map content = (getRec A id).map content)
    (fun _ w => ⟨w, fun _ => rfl⟩) ?_ ?_ ha h
  · intro A B C f g w
    obtain ⟨w1, c1⟩ := f w
    obtain ⟨w2, c2⟩ := g w1
    exact ⟨w2, fun id => (c2 id).trans (c1 id)⟩
  · -- one write: the record at `id` is written over itself with `v` appended to its verifier list
    intro S S1 id r _ hr hs h
    obtain ⟨_, _, rfl⟩ := setRecord_some hs
    have hl : lower r.key = r.key := h.keysLower r (getRec_mem hr).1
    have hid : r.id = id := (getRec_mem hr).2
    obtain ⟨w1, _⟩ := WF_putRecord (r := { r with verifiers := r.verifiers ++ [v] }) h hl
      (fun r0 hr0 => by
        have : getRec S r.id = some r0 := hr0
        rw [hid, hr] at this; cases this; exact ⟨rfl, rfl⟩)
      (h.recBounded r (getRec_mem hr).1)
    refine ⟨w1, fun id' => ?_⟩
    rw [getRec_putRecord]
    by_cases e : r.id = id'
    · have hrid : getRec S id' = some r := by rw [← e, hid]; exact hr
      rw [if_pos e, hrid]
      simp [content, hl]
    · simp [e]

theorem WF_handleVerify {S S' : State} {v id : Nat} {yes : Bool} (h : WFcore S)
    (hh : handleVerify S v id yes = some S') :
    WFcore S' ∧ ∀ id, (getRec S' id).map content = (getRec S id).map content := by
  obtain ⟨q, S1, S2, fresh, hd⟩ := handleVerify_some hh
  obtain ⟨⟨b, e, rfl⟩, _⟩ := payTip_some hd.paid
  have h1 : WFcore { S with bal := b, escrow := e } := WFcore_congr h rfl rfl rfl rfl rfl
  rw [hd.state]
  rcases hd.approved with ⟨_, rfl⟩ | ⟨_, ha⟩
  · exact ⟨WF_deleteReq _ h1, fun id' => by rw [(deleteReq_recFrame _ _).getRec]; rfl⟩
  · obtain ⟨w2, c2⟩ := WF_approveLoop h1 ha
    exact ⟨WF_deleteReq _ w2, fun id' => by rw [(deleteReq_recFrame _ _).getRec, c2 id']; rfl⟩

def OpFrame (o : Op) (S S' : State) : Prop :=
  match o.signer with
  | some s => OwnerOnly s S S'
  | none => ∀ id, (getRec S' id).map content = (getRec S id).map content

theorem OpFrame.of_content {o : Op} {S S' : State}
    (h : ∀ id, (getRec S' id).map content = (getRec S id).map content) : OpFrame o S S' := by
  unfold OpFrame
  split
  · exact fun id => Or.inl (h id)
  · exact h

theorem WF_apply {S S' : State} {o : Op} (hrot : o.isRotate = false) (h : WFcore S) (hw : ReqWF S)
    (ha : apply S o = some S') : WFcore S' ∧ OpFrame o S S' := by
  have same : S'.records = S.records → OpFrame o S S' := fun e => OpFrame.of_content fun id => by rw [getRec_congr e]
  cases apply_applied ha with
  | register c hs hr =>
    obtain ⟨w, o1, _⟩ := WF_registerRecords (S := { S with councilors := c }) (WFcore_congr h rfl rfl rfl rfl rfl) (ReqWF_congr hw rfl rfl) hr
    exact ⟨w, by unfold OpFrame; rw [hs]; exact o1⟩
  | delete hd =>
    obtain ⟨w, o1, _⟩ := WF_deleteRecords h hw hd
    exact ⟨w, o1⟩
  | request hr => exact ⟨WF_requestVerify h hw hr, same (requestVerify_recFrame hr).records⟩
  | handle hh => exact ⟨(WF_handleVerify h hh).1, OpFrame.of_content (WF_handleVerify h hh).2⟩
  | cancel hc => exact ⟨WF_cancelReq h hc, same (cancelReq_recFrame hc).records⟩
  | setKeysSingle hs =>
    obtain ⟨_, _, rfl⟩ := setKeysSingle_some hs
    exact ⟨WFcore_congr h rfl rfl rfl rfl rfl, same rfl⟩
  | param => exact ⟨WFcore_congr h rfl rfl rfl rfl rfl, same rfl⟩
  | rotate => cases hrot

/-- what `only_owner_edits` and `edit_drops_verifications` of C16 assume -/
def WFr (S : State) : Prop := WFcore S ∧ ReqWF S

theorem WFr_step {S : State} {o : Op} (h : WFr S) (hr : o.isRotate = false) : WFr (step S o) :=
  step_cases h fun _ ha => ⟨(WF_apply hr h.1 h.2 ha).1, (apply_reqStep ha).wf h.2⟩

theorem WFr_run (ops : List Op) {S : State} (h : WFr S) (hr : ∀ o ∈ ops, o.isRotate = false) : WFr (run S ops) :=
  List.foldlRecOn ops step h fun _ hS o ho => WFr_step hS (hr o ho)

end Sekai.Ident
