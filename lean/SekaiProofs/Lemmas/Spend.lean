import Sekai.Model.Spend
import SekaiProofs.Lemmas.Dec
/-! What the definitions of the spending-pool model do (rounding of one rate entry, coins, bank, pool list, claim infos) and,
for every operation, the guards a successful call has passed (of `Bank.send` the funds test only: that the coin list is valid is
not kept) and the state it returns in closed form; `distribute_ok`,
`withdraw_ok`, `endBlock_ok` hand on to their loops (`claimAll`, `withdrawLoop`, `endPools`), whose rules (induction, frame,
effect) stand with them. (The idiom that dismisses the failing branches: DESIGN.md §A.8.) -/
namespace Sekai.Spend

theorem toI64_of_lt {n : Nat} (h : n < I63) : toI64 n = n := by
  have hm : n % U64 = n := Nat.mod_eq_of_lt (Nat.lt_trans h (by decide))
  unfold toI64
  simp only [hm, h, if_true]

theorem ite_lt_eq_max (a b : Int) : (if a < b then b else a) = max a b := by
  split
  · exact (Int.max_eq_right (Int.le_of_lt ‹_›)).symm
  · exact (Int.max_eq_left (Int.not_lt.1 ‹_›)).symm

theorem ite_gt_eq_min (a b : Int) : (if a > b then b else a) = min a b := by
  split
  · exact (Int.min_eq_right (Int.le_of_lt ‹_›)).symm
  · exact (Int.min_eq_left (Int.not_lt.1 ‹_›)).symm

open Sekai.Dec in
/-- one rate entry: `rate.Mul(NewDec(seconds)).Mul(weight).RoundInt()` is within ½ + ½·10⁻¹⁸ of the exact product
(two roundings, each to a nearest integer) -/
theorem entryAmount_near (r dur w : Int) :
    2 * (r * dur * w) - P * P - P ≤ 2 * P * P * entryAmount r dur w ∧
    2 * P * P * entryAmount r dur w ≤ 2 * (r * dur * w) + P * P + P := by
  unfold entryAmount roundInt
  rw [mul_ofInt]
  unfold mul
  generalize r * dur * w = X
  have h1 := chopRound_near X
  have h2 := chopRound_near (chopRound X)
  generalize chopRound (chopRound X) = A at *
  generalize chopRound X = M at *
  unfold P at *
  omega

theorem sumFor_zero_of_not_mem (d : Denom) : ∀ (l : List (Denom × Nat)), d ∉ l.map (·.1) → sumFor d l = 0
  | [], _ => rfl
  | (d', a) :: rest, h => by
    simp only [List.map_cons, List.mem_cons, not_or] at h
    have hne : ¬ d' = d := fun e => h.1 e.symm
    simp [sumFor, hne, sumFor_zero_of_not_mem d rest h.2]

theorem geOn_spec {supp : List Denom} {a b : Amt} (h : Amt.geOn supp a b = true) : ∀ d ∈ supp, b d ≤ a d := by
  intro d hd
  unfold Amt.geOn at h
  rw [List.all_eq_true] at h
  simpa using h d hd

/-- `Coins.Sub` is tested on the denoms the list mentions; a coin list is zero on every other denom -/
theorem geOn_ofList {l : List (Denom × Nat)} {a : Amt} (h : Amt.geOn (l.map (·.1)) a (Amt.ofList l) = true) :
    ∀ d, Amt.ofList l d ≤ a d := by
  intro d
  by_cases hd : d ∈ l.map (·.1)
  · exact geOn_spec h d hd
  · simp [Amt.ofList, sumFor_zero_of_not_mem d l hd]

theorem sendAmt_ok {b b' : Bank} {f t : Addr} {supp : List Denom} {amt : Amt}
    (h : b.sendAmt f t supp amt = .ok b') : Amt.geOn supp (b f) amt = true ∧ b' = (b.debit f amt).credit t amt := by
  unfold Bank.sendAmt at h
  split at h
  · rename_i hg; cases h; exact ⟨hg, rfl⟩                          -- sufficient funds: subtract, then add
  · cases h                                                       -- insufficient funds

theorem send_ok {b b' : Bank} {f t : Addr} {l : List (Denom × Nat)}
    (h : b.send f t l = .ok b') : (∀ d, Amt.ofList l d ≤ b f d) ∧ b' = (b.debit f (Amt.ofList l)).credit t (Amt.ofList l) := by
  unfold Bank.send at h
  split at h
  · obtain ⟨hg, he⟩ := sendAmt_ok h                               -- `Coins.IsValid`
    exact ⟨geOn_ofList hg, he⟩
  · cases h                                                       -- invalid coins

theorem credit_other (b : Bank) (t x : Addr) (amt : Amt) (h : x ≠ t) : (b.credit t amt) x = b x :=
  if_neg h

theorem move_other (b : Bank) (f t x : Addr) (amt : Amt) (hf : x ≠ f) (ht : x ≠ t) :
    ((b.debit f amt).credit t amt) x = b x := by
  simp [Bank.credit, Bank.debit, hf, ht]

theorem move_from (b : Bank) (f t : Addr) (amt : Amt) (hft : f ≠ t) (d : Denom) :
    ((b.debit f amt).credit t amt) f d = b f d - amt d := by
  simp [Bank.credit, Bank.debit, hft, Amt.sub]

theorem move_to (b : Bank) (f t : Addr) (amt : Amt) (hft : f ≠ t) (d : Denom) :
    ((b.debit f amt).credit t amt) t d = b t d + amt d := by
  have : ¬ t = f := fun e => hft e.symm
  simp [Bank.credit, Bank.debit, this, Amt.add]

/-- also when the sender is the receiver -/
theorem move_from_ge (b : Bank) (f t : Addr) (amt : Amt) (d : Denom) :
    b f d - amt d ≤ ((b.debit f amt).credit t amt) f d := by
  by_cases h : f = t <;> simp [Bank.credit, Bank.debit, Amt.add, Amt.sub, h]

theorem move_ge (b : Bank) (f t x : Addr) (amt : Amt) (hx : x ≠ f) (d : Denom) :
    b x d ≤ ((b.debit f amt).credit t amt) x d := by
  by_cases h : x = t
  · subst h; simp [Bank.credit, Bank.debit, Amt.add, hx]
  · simp [Bank.credit, Bank.debit, hx, h]

theorem findPool_cons (q : Pool) (ps : List Pool) (n : Nat) :
    findPool (q :: ps) n = if q.name = n then some q else findPool ps n := by
  by_cases h : q.name = n <;> simp [findPool, h]

theorem findPool_name {ps : List Pool} {n : Nat} {p : Pool} (h : findPool ps n = some p) : p.name = n := by
  simpa using List.find?_some h

theorem findPool_append_left {ps qs : List Pool} {n : Nat} {p : Pool} (h : findPool ps n = some p) :
    findPool (ps ++ qs) n = some p := by
  unfold findPool at *
  rw [List.find?_append, h]; rfl

theorem findPool_setPool {ps : List Pool} {n : Nat} {old p : Pool}
    (h : findPool ps n = some old) (hp : p.name = old.name) : findPool (setPool ps p) n = some p := by
  have hp := hp.trans (findPool_name h)
  induction ps with
  | nil => cases h
  | cons q rest ih =>
    rw [findPool_cons] at h
    simp only [setPool, beq_iff_eq, hp]
    split
    · rw [findPool_cons, if_pos hp]
    · rename_i hq; rw [findPool_cons, if_neg hq]; rw [if_neg hq] at h; exact ih h

theorem findPool_setPool_other {ps : List Pool} {n : Nat} {p : Pool} (hn : p.name ≠ n) :
    findPool (setPool ps p) n = findPool ps n := by
  induction ps with
  | nil => rfl
  | cons q rest ih =>
    simp only [setPool, beq_iff_eq]
    split
    · rename_i hq; rw [findPool_cons, findPool_cons, if_neg hn, if_neg (hq ▸ hn)]
    · rw [findPool_cons, findPool_cons, ih]

theorem sumPools_setPool {ps : List Pool} {n : Nat} {old p : Pool} (d : Denom)
    (h : findPool ps n = some old) (hp : p.name = old.name) :
    sumPools (setPool ps p) d + old.bal d = sumPools ps d + p.bal d := by
  have hp := hp.trans (findPool_name h)
  induction ps with
  | nil => cases h
  | cons q rest ih =>
    rw [findPool_cons] at h
    simp only [setPool, beq_iff_eq, hp]
    split at h
    · rename_i hq; cases h; simp only [hq, if_true, sumPools]; omega
    · rename_i hq; have := ih h; simp only [hq, if_false, sumPools]; omega

theorem sumPools_append (ps qs : List Pool) (d : Denom) : sumPools (ps ++ qs) d = sumPools ps d + sumPools qs d := by
  induction ps with
  | nil => simp [sumPools]
  | cons q rest ih => simp only [List.cons_append, sumPools, ih]; omega

theorem findInfo_setInfo (is : List ClaimInfo) (c : ClaimInfo) : findInfo (setInfo is c) c.pool c.acct = some c := by
  induction is with
  | nil => simp [setInfo, findInfo]
  | cons i rest ih =>
    simp only [setInfo]
    split
    · simp [findInfo]
    · rename_i hne
      unfold findInfo at *
      rw [List.find?_cons]
      simp only [hne]
      exact ih

/-- what a claim over `dur` seconds at weight `w` pays, per denom -/
def paidOf (p : Pool) (dur w : Int) : Amt := Amt.ofList (toNatCoins (rewardEntries p.rates dur w))

/-- what `claim s n a now = .ok s'` has passed and returns: pool `p`, claim info `ci`, `dur` seconds paid at weight `w` -/
structure ClaimOk (s s' : State) (n : Nat) (a : Addr) (now : Nat) (p : Pool) (ci : ClaimInfo) (dur w : Int) : Prop where
  pool : findPool s.pools n = some p                              -- not ErrPoolDoesNotExist
  weight : w ≠ 0                                                  -- not ErrNotPoolBeneficiary
  info : findInfo s.infos n a = some ci                           -- not ErrNotRegisteredForRewards
  duration : claimDuration p ci.last now = some dur               -- not ErrNoMoreRewardsToClaim
  nonneg : ∀ e ∈ rewardEntries p.rates dur w, 0 ≤ e.2             -- `sdk.NewCoin` did not panic
  le_record : ∀ d, paidOf p dur w d ≤ p.bal d                     -- `Coins.Sub` on the pool record did not panic
  le_module : ∀ d, paidOf p dur w d ≤ s.bank SPEND d              -- the module account could pay
  state : s' = { s with pools := setPool s.pools { p with bal := Amt.sub p.bal (paidOf p dur w) },
                        bank := (s.bank.debit SPEND (paidOf p dur w)).credit a (paidOf p dur w),
                        infos := setInfo s.infos { pool := n, acct := a, last := now } }

theorem claim_ok {s s' : State} {n : Nat} {a : Addr} {now : Nat} (h : claim s n a now = .ok s') :
    ∃ p ci dur, ClaimOk s s' n a now p ci dur (benWeight p s.actors a) := by
  revert h
  fun_cases claim s n a now <;> try (intro h; cases h; done)
  next p hp w hw ci hci dur hdur entries hneg coins rewards supp hge p' bank' hb =>   -- every guard passed, the bank paid
    intro h; cases h
    obtain ⟨hg2, rfl⟩ := sendAmt_ok hb
    refine ⟨p, ci, dur, {
      pool := hp, weight := hw, info := hci, duration := hdur, nonneg := fun e he => ?_,
      le_record := geOn_ofList (by simpa using hge), le_module := geOn_ofList hg2, state := rfl }⟩
    have : ¬ (e.2 < 0) := fun hlt => hneg (List.any_eq_true.2 ⟨e, he, by simpa using hlt⟩)
    omega

theorem claim_sets_cursor {s s' : State} {n : Nat} {a : Addr} {now : Nat} (h : claim s n a now = .ok s') :
    findInfo s'.infos n a = some { pool := n, acct := a, last := now } := by
  obtain ⟨p, ci, dur, hc⟩ := claim_ok h
  rw [hc.state]
  exact findInfo_setInfo s.infos { pool := n, acct := a, last := now }

theorem create_ok {s s' : State} {ok : Bool} {n : Nat} {x : PoolArgs} {now : Nat} (h : create s ok n x now = .ok s') :
    ok = true ∧ findPool s.pools n = none ∧
      s' = { s with pools := s.pools ++ [{
        name := n, claimStart := x.claimStart, claimEnd := x.claimEnd, claimExpiry := x.claimExpiry, rates := x.rates,
        voteQuorum := x.voteQuorum, votePeriod := x.votePeriod, voteEnactment := x.voteEnactment, ownerRoles := x.ownerRoles,
        ownerAccounts := x.ownerAccounts, benRoles := x.benRoles, benAccounts := x.benAccounts, bal := Amt.zero,
        dynamicRate := x.dynamicRate, dynamicRatePeriod := x.dynamicRatePeriod, lastDyn := now }] } := by
  revert h
  fun_cases create s ok n x now <;> try (intro h; cases h; done)
  next hok hn => intro h; cases h; exact ⟨by simpa using hok, hn, rfl⟩   -- valid name, no pool of that name: appended

theorem deposit_ok {s s' : State} {frm : Addr} {n : Nat} {coins : List (Denom × Nat)} (h : deposit s frm n coins = .ok s') :
    ∃ p, findPool s.pools n = some p ∧ (∀ d, Amt.ofList coins d ≤ s.bank frm d) ∧
      s' = { s with bank := (s.bank.debit frm (Amt.ofList coins)).credit SPEND (Amt.ofList coins),
                    pools := setPool s.pools { p with bal := Amt.add p.bal (Amt.ofList coins) } } := by
  revert h
  fun_cases deposit s frm n coins <;> try (intro h; cases h; done)
  next bank' hb p hp =>                                           -- the bank moved the coins, the pool exists
    intro h; cases h
    obtain ⟨hle, rfl⟩ := send_ok hb
    exact ⟨p, hp, hle, rfl⟩

theorem register_ok {s s' : State} {n : Nat} {a : Addr} {now : Nat} (h : register s n a now = .ok s') :
    ∃ p, findPool s.pools n = some p ∧ isAllowedBen p s.actors a = true ∧
      s' = { s with infos := setInfo s.infos { pool := n, acct := a, last := now } } := by
  revert h
  fun_cases register s n a now <;> try (intro h; cases h; done)
  next p hp hb => intro h; cases h; exact ⟨p, hp, by simpa using hb, rfl⟩   -- the pool exists, `IsAllowedBeneficiary`

/-- of the old record `p` only the balance survives; `claimExpiry` and `lastDyn` are written as 0 whatever the proposal says -/
theorem update_ok {s s' : State} {n : Nat} {x : PoolArgs} (h : update s n x = .ok s') :
    ∃ p, findPool s.pools n = some p ∧
      s' = { s with pools := setPool s.pools {
        name := n, claimStart := x.claimStart, claimEnd := x.claimEnd, claimExpiry := 0, rates := x.rates,
        voteQuorum := x.voteQuorum, votePeriod := x.votePeriod, voteEnactment := x.voteEnactment, ownerRoles := x.ownerRoles,
        ownerAccounts := x.ownerAccounts, benRoles := x.benRoles, benAccounts := x.benAccounts, bal := p.bal,
        dynamicRate := x.dynamicRate, dynamicRatePeriod := x.dynamicRatePeriod, lastDyn := 0 } } := by
  revert h
  fun_cases update s n x <;> try (intro h; cases h; done)
  next p hp => intro h; cases h; exact ⟨p, hp, rfl⟩                -- the pool exists

/-- a distribution proposal is a sequence of ordinary claims -/
theorem claimAll_induct {motive : State → Prop} {n now : Nat} {l : List Addr} {s s' : State}
    (hstep : ∀ s a s', a ∈ l → claim s n a now = .ok s' → motive s → motive s')
    (h : claimAll s n now l = .ok s') : motive s → motive s' := by
  revert h
  fun_induction claimAll s n now l <;> try (intro h; cases h; done)
  next => intro h; cases h; exact id                              -- no account left
  next s a rest s1 h1 ih =>                                       -- the claim of `a` succeeded
    exact fun h hs => ih (fun s a s' ha => hstep s a s' (List.mem_cons_of_mem _ ha)) h (hstep s a s1 List.mem_cons_self h1 hs)

theorem claimAll_frame {n now : Nat} {l : List Addr} {s s' : State} (h : claimAll s n now l = .ok s')
    (x : Addr) (hx : x ∉ l) (hxs : x ≠ SPEND) : s'.bank x = s.bank x := by
  refine claimAll_induct (motive := fun s1 => s1.bank x = s.bank x) (fun s1 a s2 ha hc hs1 => ?_) h rfl
  obtain ⟨p, ci, dur, hk⟩ := claim_ok hc
  rw [← hs1, hk.state]
  exact move_other s1.bank SPEND a x _ hxs (fun e => hx (e ▸ ha))

theorem distribute_ok {s s' : State} {n now : Nat} (h : distribute s n now = .ok s') :
    ∃ p, findPool s.pools n = some p ∧ claimAll s n now (distributionList s p) = .ok s' := by
  revert h
  fun_cases distribute s n now <;> try (intro h; cases h; done)
  next p hp => exact fun h => ⟨p, hp, h⟩                          -- the pool exists: the claims of its list

theorem withdraw_ok {s s' : State} {n : Nat} {bens : List Addr} {coins : List (Denom × Nat)}
    (h : withdraw s n bens coins = .ok s') :
    ∃ p bank' bal', findPool s.pools n = some p ∧ withdrawLoop s p coins bens s.bank p.bal = .ok (bank', bal') ∧
      s' = { s with bank := bank', pools := setPool s.pools { p with bal := bal' } } := by
  revert h
  fun_cases withdraw s n bens coins <;> try (intro h; cases h; done)
  next p hp bank' bal' hl => intro h; cases h; exact ⟨p, bank', bal', hp, hl, rfl⟩   -- the pool exists, the loop ran through

/-- the loop's invariant: the module account loses no more than the running pool record -/
theorem withdrawLoop_effect {s : State} {p : Pool} {coins : List (Denom × Nat)} {bens : List Addr} {bank bank' : Bank} {bal bal' : Amt}
    (h : withdrawLoop s p coins bens bank bal = .ok (bank', bal')) :
      (∀ b ∈ bens, isAllowedBen p s.actors b = true) ∧
      ∀ d, bank SPEND d + bal' d ≤ bank' SPEND d + bal d := by
  revert h
  fun_induction withdrawLoop s p coins bens bank bal <;> try (intro h; cases h; done)
  next => intro h; cases h; exact ⟨nofun, fun d => Nat.le_refl _⟩   -- no beneficiary left
  next b rest bank bal hb bank1 hsend hge ih =>                    -- `b` is allowed, is paid, the record covers it
    intro h
    obtain ⟨hall, hinv⟩ := ih h
    obtain ⟨_, rfl⟩ := send_ok hsend
    refine ⟨fun x hx => ?_, fun d => ?_⟩
    · cases hx with
      | head => simpa using hb
      | tail _ hx' => exact hall x hx'
    · have hg := geOn_ofList (by simpa using hge) d
      have := hinv d
      have hm := move_from_ge bank SPEND b (Amt.ofList coins) d
      simp only [Amt.sub] at this
      omega

theorem endPool_frame {s : State} {pfx : Nat → Nat → Addr → Bool} {now : Nat} {p p' : Pool}
    (h : endPool s pfx now p = some p') : p'.name = p.name ∧ p'.bal = p.bal := by
  revert h
  fun_cases endPool s pfx now p <;> intro h <;> cases h <;> exact ⟨rfl, rfl⟩

theorem endPools_frame {s : State} {pfx : Nat → Nat → Addr → Bool} {now : Nat} {ps ps' : List Pool}
    (h : endPools s pfx now ps = some ps') :
      (∀ d, sumPools ps' d = sumPools ps d) ∧
      ∀ n p, findPool ps n = some p → ∃ p', findPool ps' n = some p' ∧ p'.bal = p.bal := by
  revert h ps'
  fun_induction endPools s pfx now ps <;> try (intro ps' h; cases h; done)
  next => intro ps' h; cases h; exact ⟨fun _ => rfl, nofun⟩         -- no pool left
  next q rest q' rest' hr hq ih =>                                 -- `q` became `q'`, the rest became `rest'`
    intro ps' h; cases h
    obtain ⟨hname, hbal⟩ := endPool_frame hq
    obtain ⟨hsum, hfind⟩ := ih hr
    refine ⟨fun d => by simp only [sumPools, hsum d, hbal], fun n p hp => ?_⟩
    rw [findPool_cons] at hp ⊢
    rw [hname]
    split at hp
    · rename_i hn; cases hp; exact ⟨q', if_pos hn, hbal⟩
    · rename_i hn; rw [if_neg hn]; exact hfind n p hp

theorem endBlock_ok {s s' : State} {pfx : Nat → Nat → Addr → Bool} {now : Nat} (h : endBlock s pfx now = .ok s') :
    ∃ ps, endPools s pfx now s.pools = some ps ∧ s' = { s with pools := ps } := by
  revert h
  fun_cases endBlock s pfx now <;> try (intro h; cases h; done)
  next ps hp => intro h; cases h; exact ⟨ps, hp, rfl⟩               -- no pool panicked

end Sekai.Spend
