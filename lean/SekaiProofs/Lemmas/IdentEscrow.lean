import SekaiProofs.Lemmas.IdentOps
/-! The request side of the registry under every message (`ReqStep`): request ids stay pairwise different and at most
the counter, an id at most the counter that is absent stays absent, and the gov module account holds exactly the tips of
the pending requests. Then: where a tip goes. -/
namespace Sekai.Ident

theorem sumTips_cons (d : Nat) (q : Request) (l : List Request) : sumTips d (q :: l) = tipIn d q + sumTips d l := rfl

def ReqWF (S : State) : Prop :=
  S.reqs.Pairwise (fun a b => a.id ≠ b.id) ∧ ∀ q ∈ S.reqs, q.id ≤ S.lastReqId

def EscrowEq (S : State) : Prop := ∀ d, escrowGet S d = sumTips d S.reqs

def EscInv (S : State) : Prop := ReqWF S ∧ EscrowEq S

theorem sumTips_split (d : Nat) {id : Nat} {l : List Request} {q : Request} (hp : l.Pairwise (fun a b => a.id ≠ b.id))
    (hf : l.find? (fun x => x.id == id) = some q) :
    sumTips d l = tipIn d q + sumTips d (l.filter (fun x => x.id != id)) := by
  induction l with
  | nil => cases hf
  | cons x xs ih =>
    rw [List.pairwise_cons] at hp
    by_cases hx : x.id = id
    · have : q = x := by simp [hx] at hf; exact hf.symm
      subst this
      have hfil : (q :: xs).filter (fun y => y.id != id) = xs := by
        simp only [List.filter_cons, hx, bne_self_eq_false, Bool.false_eq_true, if_false]
        rw [List.filter_eq_self]
        intro y hy
        simpa using fun e => hp.1 y hy (hx.trans e.symm)
      rw [hfil, sumTips_cons]
    · have hx' : (x.id == id) = false := by simpa using hx
      have hf' : xs.find? (fun y => y.id == id) = some q := by simpa [List.find?_cons, hx'] using hf
      have hfil : (x :: xs).filter (fun y => y.id != id) = x :: xs.filter (fun y => y.id != id) := by
        simp [hx]
      rw [hfil, sumTips_cons, sumTips_cons, ih hp.2 hf']
      omega

theorem getReq_of_mem {S : State} (h : ReqWF S) {q : Request} (hq : q ∈ S.reqs) : getReq S q.id = some q := by
  unfold getReq
  have hp := h.1
  revert hp hq
  generalize S.reqs = l
  intro hq hp
  induction l with
  | nil => cases hq
  | cons x xs ih =>
    rw [List.pairwise_cons] at hp
    rcases List.mem_cons.mp hq with e | hm
    · subst e; simp
    · have : x.id ≠ q.id := hp.1 q hm
      have h' : (x.id == q.id) = false := by simpa using this
      simp only [List.find?_cons, h']
      exact ih hm hp.2

/-- the three fields the escrow invariant reads are untouched -/
structure EscFrame (S S' : State) : Prop where
  reqs : S'.reqs = S.reqs
  lastReqId : S'.lastReqId = S.lastReqId
  escrow : S'.escrow = S.escrow

theorem EscFrame.trans {A B C : State} (h1 : EscFrame A B) (h2 : EscFrame B C) : EscFrame A C :=
  ⟨h2.reqs.trans h1.reqs, h2.lastReqId.trans h1.lastReqId, h2.escrow.trans h1.escrow⟩
theorem ReqFrame.esc {S S' : State} (h : ReqFrame S S') : EscFrame S S' := ⟨h.reqs, h.lastReqId, h.escrow⟩

/-- what a message does to the request side. The two invariants stand inside as implications, so that this ONE
reflexive, transitive relation carries the counter, "gone stays gone" and both invariants through the `f_rel` lemmas
of the loops and through `run`. -/
structure ReqStep (S S' : State) : Prop where
  counter : S.lastReqId ≤ S'.lastReqId
  gone : ∀ id, id ≤ S.lastReqId → getReq S id = none → getReq S' id = none
  wf : ReqWF S → ReqWF S'
  esc : ReqWF S → EscrowEq S → EscrowEq S'

theorem ReqStep.refl (S : State) : ReqStep S S := ⟨Nat.le_refl _, fun _ _ h => h, fun h => h, fun _ h => h⟩

theorem ReqStep.trans {A B C : State} (h1 : ReqStep A B) (h2 : ReqStep B C) : ReqStep A C :=
  ⟨Nat.le_trans h1.counter h2.counter,
   fun id hid hn => h2.gone id (Nat.le_trans hid h1.counter) (h1.gone id hid hn),
   fun w => h2.wf (h1.wf w), fun w e => h2.esc (h1.wf w) (h1.esc w e)⟩

theorem ReqStep.inv {S S' : State} (h : ReqStep S S') (i : EscInv S) : EscInv S' := ⟨h.wf i.1, h.esc i.1 i.2⟩

theorem ReqWF_congr {S S' : State} (w : ReqWF S) (h1 : S'.reqs = S.reqs) (h2 : S'.lastReqId = S.lastReqId) : ReqWF S' :=
  ⟨by rw [h1]; exact w.1, fun q hq => by rw [h1] at hq; rw [h2]; exact w.2 q hq⟩

theorem EscFrame.reqStep {S S' : State} (f : EscFrame S S') : ReqStep S S' := by
  refine ⟨by rw [f.lastReqId]; exact Nat.le_refl _, fun id _ hn => by rw [getReq_congr f.reqs]; exact hn,
    fun w => ReqWF_congr w f.reqs f.lastReqId, fun _ e d => ?_⟩
  rw [escrowGet_congr f.escrow, f.reqs]; exact e d

/-- request `id`, pending as `q`, is settled in favour of `to` (`CancelIdentityRecordsVerifyRequest`: the requester;
`HandleIdentityRecordsVerifyRequest`: the verifier, approve or reject). What the two have in common and no more: of the
date check and the approve loop of a handle (`Handled`) it keeps only that they leave the request side alone. -/
structure Settled (S : State) (id to : Nat) (q : Request) (S' : State) : Prop where
  pending : getReq S id = some q
  /-- the tip is paid (`S1`), then only the record side changes (`S2`), then the request is deleted -/
  trace : ∃ S1 S2, payTip S to q = some S1 ∧ ReqFrame S1 S2 ∧ S' = deleteReq S2 id

theorem cancelReq_settled {S S' : State} {a id : Nat} (hc : cancelReq S a id = some S') :
    ∃ q, q.addr = a ∧ Settled S id a q S' := by
  obtain ⟨q, S1, hq, ha, hpay, rfl⟩ := cancelReq_some hc
  exact ⟨q, ha, { pending := hq, trace := ⟨S1, S1, hpay, ReqFrame.refl _, rfl⟩ }⟩

theorem handleVerify_settled {S S' : State} {v id : Nat} {yes : Bool} (hh : handleVerify S v id yes = some S') :
    ∃ q, q.verifier = v ∧ Settled S id v q S' := by
  obtain ⟨q, S1, S2, fresh, hd⟩ := handleVerify_some hh
  refine ⟨q, hd.verifier, { pending := hd.pending, trace := ⟨S1, S2, hd.paid, ?_, hd.state⟩ }⟩
  rcases hd.approved with ⟨_, rfl⟩ | ⟨_, ha⟩
  · exact ReqFrame.refl _
  · exact approveLoop_reqFrame ha

theorem Settled.reqStep {S S' : State} {id to : Nat} {q : Request} (h : Settled S id to q S') : ReqStep S S' := by
  obtain ⟨hq, S1, S2, hpay, f, rfl⟩ := h
  obtain ⟨⟨b, e, rfl⟩, _, pe⟩ := payTip_some hpay
  have hreqs : (deleteReq S2 id).reqs = S.reqs.filter (fun x => x.id != id) := by rw [deleteReq_reqs, f.reqs]
  have hlast : (deleteReq S2 id).lastReqId = S.lastReqId := by rw [deleteReq_lastReqId]; exact f.lastReqId
  refine ⟨by rw [hlast]; exact Nat.le_refl _, ?_, fun w => ⟨?_, ?_⟩, ?_⟩
  · intro id' _ hn
    rw [getReq_deleteReq, f.getReq]
    split
    · rfl
    · exact hn
  · rw [hreqs]; exact w.1.filter _
  · intro x hx
    rw [hreqs] at hx; rw [hlast]
    exact w.2 x (List.mem_filter.mp hx).1
  · intro w he d
    rw [hreqs, escrowGet_congr (deleteReq_escrow _ _), escrowGet_congr f.escrow]
    have hs := sumTips_split d w.1 hq
    have := pe d
    have := he d
    omega

theorem cancelReq_reqStep {S S' : State} {a id : Nat} (hc : cancelReq S a id = some S') : ReqStep S S' := by
  obtain ⟨_, _, h⟩ := cancelReq_settled hc
  exact h.reqStep

theorem cancelInvalid_reqStep {S S' : State} {a : Nat} {ids : List Nat} (hc : cancelInvalid S a ids = some S') :
    ReqStep S S' :=
  cancelInvalid_rel ReqStep.refl ReqStep.trans cancelReq_reqStep hc

theorem registerRecords_reqStep {S S' : State} {a : Nat} {infos : List Info}
    (hr : registerRecords S a infos = some S') : ReqStep S S' := by
  obtain ⟨_, S1, aff, _, ha, hc⟩ := registerRecords_some hr
  exact (regApply_reqFrame ha).esc.reqStep.trans (cancelInvalid_reqStep hc)

theorem deleteRecords_reqStep {S S' : State} {a : Nat} {keys : List String}
    (hd : deleteRecords S a keys = some S') : ReqStep S S' := by
  obtain ⟨_, S2, hl, hc⟩ := deleteRecords_some hd
  have f0 : EscFrame S { S with idx := S.idx.filter (fun e => !delSel a keys e) } := by constructor <;> rfl
  exact (f0.trans (deleteLoop_reqFrame hl).esc).reqStep.trans (cancelInvalid_reqStep hc)

theorem setReq_fresh {S : State} (w : ReqWF S) (q : Request) (hq : S.lastReqId < q.id) : (setReq S q).reqs = q :: S.reqs := by
  show q :: S.reqs.filter (fun x => x.id != q.id) = q :: S.reqs
  rw [List.filter_eq_self.mpr]
  intro x hx
  have := w.2 x hx
  simpa using (by omega : x.id ≠ q.id)

theorem requestVerify_reqStep {S S' : State} {a v : Nat} {ids : List Nat} {d n : Nat}
    (hr : requestVerify S a v ids d n = some S') : ReqStep S S' := by
  obtain ⟨_, le, _, _, h⟩ := requestVerify_some hr
  obtain ⟨⟨b, e, rfl⟩, _, pe⟩ := takeTip_some h
  -- the id is fresh: the new request is consed on and nothing is dropped
  have hreqs := fun w => setReq_fresh (S := S) w ⟨S.lastReqId + 1, a, v, ids, d, n, le⟩ (Nat.lt_succ_self _)
  refine ⟨Nat.le_succ _, ?_, fun w => ?_, fun w he d' => ?_⟩
  · intro id hid hn
    show getReq (setReq S _) id = none
    rw [getReq_setReq]
    have : S.lastReqId + 1 ≠ id := by omega
    simp [this, hn]
  · constructor
    · show (setReq S _).reqs.Pairwise _
      rw [hreqs w, List.pairwise_cons]
      exact ⟨fun x hx => by have := w.2 x hx; show S.lastReqId + 1 ≠ x.id; omega, w.1⟩
    · intro x hx
      change x ∈ (setReq S _).reqs at hx
      rw [hreqs w] at hx
      show x.id ≤ S.lastReqId + 1
      rcases List.mem_cons.mp hx with e | hm
      · rw [e]; exact Nat.le_refl _
      · exact Nat.le_succ_of_le (w.2 x hm)
  · refine (pe d').trans ?_
    show escrowGet S d' + _ = sumTips d' (setReq S _).reqs
    rw [hreqs w, sumTips_cons, he d']
    unfold tipIn
    by_cases hdd : d = d'
    · subst hdd; simp; omega
    · have : (d == d') = false := by simpa using hdd
      simp [hdd, this]

theorem replaceReq_reqStep {S : State} {q0 q' : Request} (hq : getReq S q'.id = some q0)
    (hd : q'.denom = q0.denom) (ha : q'.amount = q0.amount) : ReqStep S (setReq (deleteReq S q'.id) q') := by
  have hreqs : (setReq (deleteReq S q'.id) q').reqs = q' :: S.reqs.filter (fun x => x.id != q'.id) := by
    show q' :: (deleteReq S q'.id).reqs.filter _ = _
    rw [deleteReq_reqs, List.filter_filter]
    simp
  have hlast : (setReq (deleteReq S q'.id) q').lastReqId = S.lastReqId := by
    rw [setReq_lastReqId, deleteReq_lastReqId]
  refine ⟨by rw [hlast]; exact Nat.le_refl _, ?_, fun w => ⟨?_, ?_⟩, ?_⟩
  · intro id _ hn
    rw [getReq_setReq, getReq_deleteReq]
    by_cases e : q'.id = id
    · rw [e, hn] at hq; cases hq
    · simp [e, hn]
  · rw [hreqs, List.pairwise_cons]
    refine ⟨fun x hx e => ?_, w.1.filter _⟩
    have := (List.mem_filter.mp hx).2
    simp [e] at this
  · intro x hx
    rw [hreqs] at hx; rw [hlast]
    rcases List.mem_cons.mp hx with e | hm
    · rw [e, ← (getReq_mem hq).2]; exact w.2 q0 (getReq_mem hq).1
    · exact w.2 x (List.mem_filter.mp hm).1
  · intro w he d
    rw [hreqs, sumTips_cons, escrowGet_congr (setReq_escrow _ _), escrowGet_congr (deleteReq_escrow _ _), he d,
      sumTips_split d w.1 hq]
    unfold tipIn
    rw [hd, ha]

theorem moveReqs_reqStep (f : Request → Request) (hf : ∀ q, (f q).id = q.id ∧ (f q).denom = q.denom ∧ (f q).amount = q.amount)
    (qs : List Request) {S : State}
    (hqs : ∀ q ∈ qs, ∃ q0, getReq S q.id = some q0 ∧ q0.denom = q.denom ∧ q0.amount = q.amount) :
    ReqStep S (moveReqs f qs S) := by
  induction qs generalizing S with
  | nil => exact ReqStep.refl _
  | cons q rest ih =>
    unfold moveReqs
    obtain ⟨q0, hq0, hd0, ha0⟩ := hqs q List.mem_cons_self
    have s1 : ReqStep S (setReq (deleteReq S q.id) (f q)) := by
      have := replaceReq_reqStep (S := S) (q' := f q) (q0 := q0) (by rw [(hf q).1]; exact hq0)
        ((hf q).2.1.trans hd0.symm) ((hf q).2.2.trans ha0.symm)
      rwa [(hf q).1] at this
    refine s1.trans (ih ?_)
    -- a later entry of the snapshot with the same id now finds `f q`, which carries the same tip
    intro q2 hq2
    obtain ⟨q3, hq3, hd3, ha3⟩ := hqs q2 (List.mem_cons_of_mem _ hq2)
    rw [getReq_setReq, getReq_deleteReq, (hf q).1]
    by_cases e : q.id = q2.id
    · rw [e, hq3] at hq0; cases hq0
      exact ⟨f q, by simp [e], (hf q).2.1.trans (hd0.symm.trans hd3), (hf q).2.2.trans (ha0.symm.trans ha3)⟩
    · exact ⟨q3, by simp [e, hq3], hd3, ha3⟩

theorem rotate_reqStep {S S' : State} {p o n : Nat} {ok : Bool} (hr : rotate S p o n ok = some S') : ReqStep S S' := by
  obtain ⟨S1, recs, S3, qs1, qs2, hd⟩ := rotate_some hr
  have f1 : EscFrame S S1 := by
    obtain ⟨_, _, rfl⟩ := (rotateChecks_some hd.checks).state
    constructor <;> rfl
  have s4 := moveReqs_reqStep (fun q => { q with addr := n }) (fun q => ⟨rfl, rfl, rfl⟩) qs1
    (fun q hq => ⟨q, collectReqs_get hd.byRequester q hq, rfl, rfl⟩)
  have s5 := moveReqs_reqStep (fun q => { q with verifier := n }) (fun q => ⟨rfl, rfl, rfl⟩) qs2
    (fun q hq => ⟨q, collectReqs_get hd.byApprover q hq, rfl, rfl⟩)
  rw [hd.state]
  exact (((f1.trans (moveRecords_reqFrame hd.moved).esc).reqStep.trans s4).trans s5).trans (EscFrame.reqStep (by constructor <;> rfl))

theorem apply_reqStep {S S' : State} {o : Op} (ha : apply S o = some S') : ReqStep S S' := by
  cases apply_applied ha with
  | register c _ hr =>
    have f0 : EscFrame S { S with councilors := c } := by constructor <;> rfl
    exact f0.reqStep.trans (registerRecords_reqStep hr)
  | delete hd => exact deleteRecords_reqStep hd
  | request hr => exact requestVerify_reqStep hr
  | handle hh => obtain ⟨_, _, h⟩ := handleVerify_settled hh; exact h.reqStep
  | cancel hc => exact cancelReq_reqStep hc
  | setKeysSingle hs => rw [(setKeysSingle_some hs).2.2]; exact EscFrame.reqStep (by constructor <;> rfl)
  | param => exact EscFrame.reqStep (by constructor <;> rfl)
  | rotate hr => exact rotate_reqStep hr

theorem step_reqStep (S : State) (o : Op) : ReqStep S (step S o) :=
  step_cases (ReqStep.refl S) fun _ => apply_reqStep

theorem run_reqStep (ops : List Op) (S : State) : ReqStep S (run S ops) :=
  List.foldlRecOn ops step (ReqStep.refl S) fun _ h o _ => h.trans (step_reqStep _ o)

def GoneForGood (S : State) (id : Nat) : Prop :=
  ∀ ops : List Op, getReq (run S ops) id = none ∧
    (∀ v' yes', apply (run S ops) (.handle v' id yes') = none) ∧
    (∀ a', apply (run S ops) (.cancel a' id) = none)

theorem gone_for_good {S : State} {id : Nat} (hle : id ≤ S.lastReqId) (hgone : getReq S id = none) : GoneForGood S id := by
  intro ops
  have hn := (run_reqStep ops S).gone id hle hgone
  refine ⟨hn, ?_, ?_⟩
  · intro v' yes'
    refine Option.eq_none_iff_forall_ne_some.mpr fun S' ha => ?_
    obtain ⟨q, _, _, _, hd⟩ := handleVerify_some (ite_none_some ha)
    exact absurd (hn.symm.trans hd.pending) nofun
  · intro a'
    refine Option.eq_none_iff_forall_ne_some.mpr fun S' ha => ?_
    obtain ⟨q, _, hq, _⟩ := cancelReq_some (ite_none_some ha)
    exact absurd (hn.symm.trans hq) nofun

theorem Settled.paid_once {S S' : State} {id to : Nat} {q : Request} (hw : ReqWF S) (h : Settled S id to q S') :
    (∀ a d, balGet S' a d = balGet S a d + (if a = to ∧ d = q.denom then q.amount else 0)) ∧
    (∀ d, escrowGet S' d + tipIn d q = escrowGet S d) ∧ GoneForGood S' id := by
  have hle : id ≤ S'.lastReqId := by
    rw [← (getReq_mem h.pending).2]
    exact Nat.le_trans (hw.2 q (getReq_mem h.pending).1) h.reqStep.counter
  obtain ⟨_, S1, S2, hpay, f, rfl⟩ := h
  obtain ⟨_, pb, pe⟩ := payTip_some hpay
  refine ⟨fun a d => ?_, fun d => ?_, gone_for_good hle (by rw [getReq_deleteReq, if_pos rfl])⟩
  · rw [balGet_congr (deleteReq_bal _ _), balGet_congr f.bal]; exact pb a d
  · rw [escrowGet_congr (deleteReq_escrow _ _), escrowGet_congr f.escrow]; exact pe d

end Sekai.Ident
