import SekaiProofs.Lemmas.CustodyAnte
import SekaiProofs.Lemmas.CustodyExec
import SekaiProofs.Lemmas.Lookup
/-! Custody transactions and histories (`runTx`, `run`): the ways a transaction ends; three facts about whole transactions
(what acceptance implies, a bank send that forces rejection, what a changed policy implies); the invariant rule of the
transaction loop (`run_invariant`) and the vote-count invariant `Inv` it carries. At the end the two operations outside that
loop: `rotate` in closed form, of `relayTx` the refused case and that it writes balances only. -/
namespace Sekai.Custody

theorem deductFee_ok {s s1 : State} {p : Addr} {fee : Nat} (h : deductFee s p fee = .ok s1) : ∃ b, s1 = { s with bal := b } := by
  revert h
  fun_cases deductFee s p fee <;> try (intro h; cases h; done)
  next => intro h; cases h; exact ⟨_, rfl⟩             -- the payer could pay

/-- the three endings of a transaction. Rejected (validation, decorator or fee): the state stays. A message failed: the decorator's
status writes and the fee stay (`{ s1 with bal := b }`). Accepted: every message ran. -/
theorem runTx_cases (s : State) (tx : Tx) :
    (∃ e, runTx s tx = (s, .err e)) ∨
    ∃ s1 b, anteAll tx.now s tx.msgs = .ok s1 ∧
      ((∃ e, runTx s tx = ({ s1 with bal := b }, .err e)) ∨
       ∃ s3, execAll { s1 with bal := b } tx.msgs = .ok s3 ∧ runTx s tx = (s3, .ok)) := by
  fun_cases runTx s tx
  · exact .inl ⟨_, rfl⟩                   -- `ValidateBasic` of a message fails
  · exact .inl ⟨_, rfl⟩                   -- the decorator rejects
  · exact .inl ⟨_, rfl⟩                   -- the fee cannot be paid
  next s1 h1 s2 h2 e _ =>                 -- a message fails
    obtain ⟨b, rfl⟩ := deductFee_ok h2
    exact .inr ⟨s1, b, h1, .inl ⟨e, rfl⟩⟩
  next s1 h1 s2 h2 s3 h3 =>               -- accepted
    obtain ⟨b, rfl⟩ := deductFee_ok h2
    exact .inr ⟨s1, b, h1, .inr ⟨s3, h3, rfl⟩⟩

theorem runTx_ok_switch {s : State} {tx : Tx} (hok : (runTx s tx).2 = .ok) : ∀ m ∈ tx.msgs, anteSwitch s m = .ok () := by
  rcases runTx_cases s tx with ⟨e, he⟩ | ⟨s1, b, hante, ⟨e, he⟩ | _⟩
  · rw [he] at hok; cases hok
  · rw [he] at hok; cases hok
  · intro m hm
    obtain ⟨s1, s2, h1, h2⟩ := (anteAll_ok hante).2 m hm
    rw [← anteSwitch_statusOnly h1]
    exact (anteMsg_ok h2).1

/-- both conditions speak of the state before the transaction: `StatusOnly` carries them to the state on which the
bank send is examined, whatever the decorator wrote for the messages before it -/
theorem bankSend_rejected {s : State} {tx : Tx} {a to : Addr} {amt : Coins} {st : Settings}
    (hm : .bankSend a to amt ∈ tx.msgs) (hs : s.settings a = some st)
    (hbad : bankGuard s st a to ≠ .ok () ∨ st.useLimits = true ∧ s.status a = none) : ∃ e, runTx s tx = (s, .err e) := by
  rcases runTx_cases s tx with h | ⟨s1, _, hante, _⟩
  · exact h
  · obtain ⟨s1, s2, ⟨f, rfl, hf⟩, h2⟩ := (anteAll_ok hante).2 _ hm
    obtain ⟨-, -, hbank⟩ := anteMsg_ok h2
    obtain ⟨hg, hl⟩ := (anteBank_ok (hbank a to amt rfl)).2 st hs
    rcases hbad with hb | ⟨hlim, hst⟩
    · exact absurd hg hb
    · exact absurd (hf a hst) (hl hlim)

theorem runTx_policy_change {s : State} {tx : Tx} {a : Addr} (hch : policy (runTx s tx).1 a ≠ policy s a) :
    (runTx s tx).2 = .ok ∧ ∃ m ∈ tx.msgs, m.keyArgs.isSome := by
  -- the decorator writes status records and the fee the balances; neither is part of a policy
  rcases runTx_cases s tx with ⟨e, he⟩ | ⟨s1, b, hante, hrun⟩
  · rw [he] at hch; exact absurd rfl hch
  · obtain ⟨f, rfl, _⟩ := (anteAll_ok hante).1
    rcases hrun with ⟨e, he⟩ | ⟨s3, hexec, he⟩ <;> rw [he] at hch ⊢
    · exact absurd rfl hch
    · refine ⟨rfl, Classical.byContradiction fun hne => hch ?_⟩
      refine execAll_induct (P := fun x => policy x a = policy s a) (fun m hm x x1 hx hex => ?_) ?_ hexec
      · have hf := execMsg_frame hex
        split at hf
        · rename_i k hk
          exact absurd ⟨m, hm, by rw [hk]; rfl⟩ hne
        · obtain ⟨p, v, b, rfl⟩ := hf
          exact hx
      · rfl

theorem run_invariant {P : State → Prop} (hante : ∀ s s1, StatusOnly s s1 → P s → P s1)
    (hbal : ∀ s b, P s → P { s with bal := b }) (hexec : ∀ s m s1, execMsg s m = .ok s1 → P s → P s1)
    {s : State} (h0 : P s) (txs : List Tx) : P (run s txs) := by
  induction txs generalizing s with
  | nil => exact h0
  | cons tx ts ih =>
    refine ih ?_
    rcases runTx_cases s tx with ⟨e, he⟩ | ⟨s1, b, hs1, hrun⟩
    · rw [he]; exact h0
    · have h1 := hbal _ b (hante s s1 (anteAll_ok hs1).1 h0)         -- after the decorator and the fee
      rcases hrun with ⟨e, he⟩ | ⟨s3, hs3, he⟩ <;> rw [he]
      · exact h1
      · exact execAll_induct (fun m _ x x1 hx h => hexec x m x1 h hx) h1 hs3

/-- vote-store entries that are approvals ("1") of transfer `hid` (lower-case hash) of account `t` -/
def isApproval (t : Addr) (hid : Nat) (e : VoteKey × Int) : Bool :=
  decide (e.1.target = t) && decide (e.1.hash.id = hid) && decide (e.2 = 1)

def approvalEntries (votes : List (VoteKey × Int)) (t : Addr) (hid : Nat) : List (VoteKey × Int) :=
  votes.filter (isApproval t hid)

/-- a pending transfer's vote counter is at most the number of approval entries stored for it -/
def VotesBounded (pool : Addr → Option (List (Nat × TxRec))) (votes : List (VoteKey × Int)) : Prop :=
  ∀ t l hid r, pool t = some l → aget l hid = some r → r.votes ≤ (approvalEntries votes t hid).length

/-- the vote store holds at most one entry per (voter, target, raw hash) -/
def KeysFresh (votes : List (VoteKey × Int)) : Prop := (votes.map (·.1)).Nodup

/-- the vote-count invariant of the transaction loop (`inv_run`) -/
def Inv (s : State) : Prop := VotesBounded s.pool s.votes ∧ KeysFresh s.votes

theorem approvalEntries_cons_hit (votes : List (VoteKey × Int)) (v t : Addr) (h : HashStr) :
    (approvalEntries ((⟨v, t, h⟩, 1) :: votes) t h.id).length = (approvalEntries votes t h.id).length + 1 := by
  unfold approvalEntries
  simp [isApproval]

theorem KeysFresh_cons {votes : List (VoteKey × Int)} {k : VoteKey} (x : Int)
    (hf : KeysFresh votes) (hn : aget votes k = none) : KeysFresh ((k, x) :: votes) :=
  List.nodup_cons.2 ⟨(aget_eq_none_iff votes k).1 hn, hf⟩

theorem VotesBounded_cons {pool : Addr → Option (List (Nat × TxRec))} {votes : List (VoteKey × Int)}
    (h : VotesBounded pool votes) (e : VoteKey × Int) : VotesBounded pool (e :: votes) := by
  intro t l hid r hp hr
  refine Nat.le_trans (h t l hid r hp hr) ?_
  unfold approvalEntries
  simp only [List.filter_cons]
  split <;> simp

section bounded
variable {pool : Addr → Option (List (Nat × TxRec))} {votes : List (VoteKey × Int)} {t : Addr} {l : List (Nat × TxRec)}

theorem VotesBounded_upd (hvb : VotesBounded pool votes)
    (hl : ∀ hid r, aget l hid = some r → r.votes ≤ (approvalEntries votes t hid).length) :
    VotesBounded (upd pool t (some l)) votes := by
  intro t' l' hid r hp hr
  by_cases ht : t' = t
  · subst ht
    rw [upd_same] at hp
    cases hp
    exact hl hid r hr
  · rw [upd_other _ _ _ _ ht] at hp
    exact hvb t' l' hid r hp hr

theorem VotesBounded_adel {k : Nat} (hvb : VotesBounded pool votes) (hp : pool t = some l) :
    VotesBounded (upd pool t (some (adel l k))) votes := by
  refine VotesBounded_upd hvb fun hid r hr => ?_
  rw [aget_adel] at hr
  split at hr
  · cases hr
  · exact hvb t l hid r hp hr

theorem VotesBounded_aset {k : Nat} {v : TxRec} (hvb : VotesBounded pool votes) (hp : pool t = some l)
    (hv : v.votes ≤ (approvalEntries votes t k).length) : VotesBounded (upd pool t (some (aset l k v))) votes := by
  refine VotesBounded_upd hvb fun hid r hr => ?_
  rw [aget_aset] at hr
  split at hr
  · rename_i e; cases hr; subst e; exact hv
  · exact hvb t l hid r hp hr
end bounded

theorem inv_exec {s s' : State} {m : Msg} (hi : Inv s) (hex : execMsg s m = .ok s') : Inv s' := by
  obtain ⟨hvb, hkf⟩ := hi
  cases m with
  | send a to amt pw rw hid =>
    rcases send_ok hex with rfl | ⟨b, rfl⟩
    · refine ⟨VotesBounded_upd hvb fun hid' r hr => ?_, hkf⟩
      simp only [aget] at hr
      split at hr
      · cases hr; exact Nat.zero_le _
      · cases hr
    · exact ⟨hvb, hkf⟩
  | approve v t h =>
    cases hv : aget s.votes ⟨v, t, h⟩ with
    | some x => rw [(vote_repeated hv).1] at hex; cases hex; exact ⟨hvb, hkf⟩
    | none =>
      obtain ⟨l, r, cs, rw, b1, b', p', ha⟩ := approve_ok hv hex
      obtain rfl := ha.state
      have h2 := ha.release
      split at h2
      · obtain ⟨b2, -, -, rfl⟩ := h2
        exact ⟨VotesBounded_adel (VotesBounded_cons hvb _) ha.pool, KeysFresh_cons 1 hkf hv⟩
      · obtain ⟨-, rfl⟩ := h2
        refine ⟨VotesBounded_aset (VotesBounded_cons hvb _) ha.pool ?_, KeysFresh_cons 1 hkf hv⟩
        rw [approvalEntries_cons_hit]
        exact Nat.succ_le_succ (hvb t l h.id r ha.pool ha.entry)
  | decline v t h =>
    rcases decline_ok hex with rfl | ⟨hv, b, rfl⟩
    · exact ⟨hvb, hkf⟩
    · exact ⟨VotesBounded_cons hvb _, KeysFresh_cons (-1) hkf hv⟩
  | confirm w a h pw =>
    obtain ⟨l, r, hp, hr, ⟨b, rfl⟩ | rfl⟩ := confirm_ok hex
    · exact ⟨VotesBounded_adel hvb hp, hkf⟩
    · exact ⟨VotesBounded_aset hvb hp (hvb a l h.id r hp hr), hkf⟩
  | bankSend a to amt => obtain ⟨b, rfl⟩ := plainSend_ok (.inl rfl) hex; exact ⟨hvb, hkf⟩
  | multiSend a to amt => obtain ⟨b, rfl⟩ := plainSend_ok (.inr rfl) hex; exact ⟨hvb, hkf⟩
  -- the twelve settings messages (`m.keyArgs = some _`): they write neither `pool` nor `votes`
  | _ => obtain ⟨_, _, _, _, rfl⟩ := execMsg_frame hex; exact ⟨hvb, hkf⟩

theorem inv_run {s : State} (txs : List Tx) (hi : Inv s) : Inv (run s txs) :=
  run_invariant (fun _ _ hs h => hs.eq ▸ h) (fun _ _ h => h) (fun _ _ _ hex h => inv_exec h hex) hi txs

theorem rotate_some {s s' : State} {old new payer : Addr} {fee : Nat} (h : rotate s old new payer fee = some s') :
    ∃ b0, subCoins s.bal payer (if fee = 0 then [] else [(0, fee)]) = some b0 ∧
      s' = { s with settings := carry old new s.settings, custodians := carry old new s.custodians,
                    whitelist := carry old new s.whitelist, limits := carry old new s.limits,
                    status := carry old new s.status, pool := carry old new s.pool,
                    bal := fun a d => if a = new then b0 new d + b0 old d else if a = old then 0 else b0 a d } := by
  unfold rotate at h
  split at h
  · cases h                               -- the fee cannot be paid
  · cases h; exact ⟨_, ‹_›, rfl⟩

theorem relayTx_refused {s : State} {relayer : Addr} (h : relayRefused s relayer = true) (key to : Addr) (amt fee : Nat) :
    relayTx s relayer key to amt fee = (s, .err .invType) := by
  unfold relayTx
  rw [if_pos h]

theorem relayTx_bal (s : State) (relayer key to : Addr) (amt fee : Nat) :
    ∃ b, (relayTx s relayer key to amt fee).1 = { s with bal := b } := by
  fun_cases relayTx s relayer key to amt fee
  · exact ⟨s.bal, rfl⟩                    -- refused by the decorator
  · exact ⟨s.bal, rfl⟩                    -- the relayer cannot pay the fee
  next s2 hfee _ =>                       -- the embedded send bounces: the fee stays paid
    obtain ⟨b, rfl⟩ := deductFee_ok hfee
    exact ⟨b, rfl⟩
  next s2 hfee b' _ =>                    -- relayed
    obtain ⟨_, rfl⟩ := deductFee_ok hfee
    exact ⟨b', rfl⟩

end Sekai.Custody
