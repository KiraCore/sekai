import Sekai.Model.Layer2
/-! The bank primitives of the layer-2 model (`send`, `tkMint`, `tkBurn`) and the two escrow moves built on `send`:
what a successful call required and what it did to the balances. -/
namespace Sekai.Layer2

theorem addBal_bal (b : Bank) (a : Acct) (den : Bytes) (x : Int) (a' : Acct) (d' : Bytes) :
    (b.addBal a den x).bal a' d' = if a' = a ∧ d' = den then b.bal a' d' + x else b.bal a' d' := rfl

theorem send_some {b b' : Bank} {src dst : Acct} {den : Bytes} {amt : Int} (h : b.send src dst den amt = some b') :
    validDenom den = true ∧ 0 < amt ∧ amt ≤ b.bal src den ∧ b' = (b.addBal src den (-amt)).addBal dst den amt := by
  unfold Bank.send at h
  split at h
  · rename_i hc       -- a valid coin that the source holds
    exact ⟨hc.1, hc.2.1, hc.2.2, (Option.some.inj h).symm⟩
  · cases h

theorem send_other_denom {b b' : Bank} {src dst : Acct} {den : Bytes} {amt : Int} (h : b.send src dst den amt = some b')
    (a : Acct) (d' : Bytes) (hd : d' ≠ den) : b'.bal a d' = b.bal a d' := by
  obtain ⟨_, _, _, rfl⟩ := send_some h
  simp [addBal_bal, hd]

theorem send_supply {b b' : Bank} {src dst : Acct} {den : Bytes} {amt : Int} (h : b.send src dst den amt = some b') :
    b'.supply = b.supply := by
  obtain ⟨_, _, _, rfl⟩ := send_some h
  rfl

theorem send_bal_src {b b' : Bank} {src dst : Acct} {den : Bytes} {amt : Int} (h : b.send src dst den amt = some b') (hne : src ≠ dst) :
    b'.bal src den = b.bal src den - amt := by
  obtain ⟨_, _, _, rfl⟩ := send_some h
  simp [addBal_bal, hne]; omega

theorem send_bal_dst {b b' : Bank} {src dst : Acct} {den : Bytes} {amt : Int} (h : b.send src dst den amt = some b') (hne : src ≠ dst) :
    b'.bal dst den = b.bal dst den + amt := by
  obtain ⟨_, _, _, rfl⟩ := send_some h
  simp [addBal_bal, Ne.symm hne]

theorem send_bal_other {b b' : Bank} {src dst : Acct} {den : Bytes} {amt : Int} (h : b.send src dst den amt = some b')
    {a : Acct} (h1 : a ≠ src) (h2 : a ≠ dst) : b'.bal a den = b.bal a den := by
  obtain ⟨_, _, _, rfl⟩ := send_some h
  simp [addBal_bal, h1, h2]

theorem tkMint_some {b b' : Bank} {den : Bytes} {amt : Int} (h : b.tkMint den amt = some b') :
    validDenom den = true ∧ 0 < amt ∧
    b' = { b.addBal .l2 den amt with supply := fun d => if d = den then b.supply d + amt else b.supply d,
                                      tokReg := fun d => if d = den then true else b.tokReg d } := by
  unfold Bank.tkMint at h
  split at h
  · rename_i hc       -- a valid coin: minted to the module, supply raised, token registered
    exact ⟨hc.1, hc.2, (Option.some.inj h).symm⟩
  · cases h           -- else `MintCoins` fails

theorem tkBurn_some {b b' : Bank} {den : Bytes} {amt : Int} (h : b.tkBurn den amt = some b') :
    b.tokReg den = true ∧ validDenom den = true ∧ 0 < amt ∧ amt ≤ b.bal .l2 den ∧
    b' = { b.addBal .l2 den (-amt) with supply := fun d => if d = den then b.supply d - amt else b.supply d } := by
  unfold Bank.tkBurn at h
  split at h
  · rename_i hc       -- a registered token, a valid coin that the module holds
    exact ⟨hc.1, hc.2.1, hc.2.2.1, hc.2.2.2, (Option.some.inj h).symm⟩
  · cases h           -- else `BurnCoins` fails

theorem escrowIn_some {s s1 : St} {u : Nat} {n den : Bytes} {amt : Int} (h : s.escrowIn u n den amt = some s1) :
    ∃ b, s.bank.send (.user u) .l2 den amt = some b ∧
      s1 = { s with bank := b, ledger := fun m v => if m = n ∧ v = u then s.ledger m v + amt else s.ledger m v } := by
  unfold St.escrowIn at h
  split at h
  · rename_i b hb     -- the transfer went through: the ledger entry moves with it
    exact ⟨b, hb, (Option.some.inj h).symm⟩
  · cases h

theorem escrowOut_some {s s1 : St} {u : Nat} {n den : Bytes} {amt : Int} (h : s.escrowOut u n den amt = some s1) :
    ∃ b, s.bank.send .l2 (.user u) den amt = some b ∧
      s1 = { s with bank := b, ledger := fun m v => if m = n ∧ v = u then s.ledger m v - amt else s.ledger m v } := by
  unfold St.escrowOut at h
  split at h
  · rename_i b hb     -- the transfer went through: the ledger entry moves with it
    exact ⟨b, hb, (Option.some.inj h).symm⟩
  · cases h

end Sekai.Layer2
