import Sekai.Model.Basket
/-! Coin lists of the basket model (`sdk.Coins` as sorted association lists): `amountOf` after `add1`, `addCoins`,
`subCoins?`; lists whose amounts are all positive. -/
namespace Sekai.Lemmas.Basket
open Sekai Sekai.Basket

theorem amountOf_nil (d : Denom) : amountOf [] d = 0 := rfl

theorem amountOf_add1 (cs : Coins) (c : Coin) (d : Denom) :
    amountOf (add1 cs c) d = amountOf cs d + (if c.denom = d then c.amount else 0) := by
  -- in each of the seven branches of `add1` both sides are sums of the same `if`s
  fun_induction add1 cs c <;> simp only [amountOf, *] <;> (try split) <;> omega

theorem amountOf_addCoins (a b : Coins) (d : Denom) :
    amountOf (addCoins a b) d = amountOf a d + amountOf b d := by
  unfold addCoins
  induction b generalizing a with
  | nil => simp [amountOf]
  | cons c cs ih => simp only [List.foldl, ih, amountOf_add1, amountOf]; omega

theorem amountOf_neg (b : Coins) (d : Denom) :
    amountOf (b.map fun c => (⟨c.denom, -c.amount⟩ : Coin)) d = - amountOf b d := by
  induction b with
  | nil => simp [amountOf]
  | cons c cs ih => simp only [List.map, amountOf, ih]; split <;> omega

theorem subCoins?_spec {a b r : Coins} (h : subCoins? a b = some r) (d : Denom) :
    amountOf r d = amountOf a d - amountOf b d := by
  unfold subCoins? at h
  simp only at h
  split at h
  · cases h                                        -- an amount would be negative (Go panics)
  · cases h                                        -- the difference, coin by coin
    rw [amountOf_addCoins, amountOf_neg]; omega

def AllPos (cs : Coins) : Prop := ∀ c ∈ cs, 0 < c.amount

theorem allPos_add1 (cs : Coins) (c : Coin) (h : AllPos cs) (hc : 0 < c.amount) : AllPos (add1 cs c) := by
  fun_induction add1 cs c with
  | case1 | case3 => exact h                                       -- a zero coin: dropped
  | case2 | case4 => exact List.forall_mem_cons.mpr ⟨hc, h⟩        -- inserted at the end / in front of a larger denom
  | case5 => exact (List.forall_mem_cons.mp h).2                   -- same denom, the sum is zero: the entry goes
  | case6 x xs c =>                                                -- same denom: the amounts are added
    obtain ⟨hx, hxs⟩ := List.forall_mem_cons.mp h
    exact List.forall_mem_cons.mpr ⟨(by show 0 < x.amount + c.amount; omega), hxs⟩
  | case7 x xs c _ _ ih =>                                         -- a smaller denom in front: further down the list
    obtain ⟨hx, hxs⟩ := List.forall_mem_cons.mp h
    exact List.forall_mem_cons.mpr ⟨hx, ih hxs hc⟩

theorem amountOf_nonneg_of_allPos (cs : Coins) (h : AllPos cs) (d : Denom) : 0 ≤ amountOf cs d := by
  induction cs with
  | nil => exact Int.le_refl 0
  | cons x xs ih =>
    obtain ⟨hx, hxs⟩ := List.forall_mem_cons.mp h
    have := ih hxs
    simp only [amountOf]
    omega

theorem validCoins_allPos {cs : Coins} (h : validCoins cs = true) : AllPos cs := by
  induction cs with
  | nil => exact fun _ hc => nomatch hc
  | cons x xs ih =>
    unfold validCoins at h
    simp only [Bool.and_eq_true, decide_eq_true_eq] at h
    exact List.forall_mem_cons.mpr ⟨h.1.1, ih h.2⟩

end Sekai.Lemmas.Basket
