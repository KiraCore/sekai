import Sekai.Model.NetProps
/-! Lemmas about the interpreter of `Sekai.NetProps` that hold for every table of arms and conditions (C19 puts the
regenerated table in): what `execList` does past leading guards, on a single assignment or conditional, and on an arm of the simple
shape (`execList_simple`); two facts about `List.Nodup` for the obligations over the table; the inversion of `setProperty`; and
`Passes`, the meaning of a validation condition that does not hold, with the lemmas that get it from `validate`. -/
namespace Sekai.NetProps

@[simp] theorem upd_same (P : Props) (f : Nat) (v : Val) : upd P f v f = v := by simp [upd]
theorem upd_other (P : Props) {f g : Nat} (v : Val) (h : g ≠ f) : upd P f v g = P g := by simp [upd, h]

theorem getVal_congr {P' P : Props} {g : GetExpr} (h : ∀ f, target g = some f → P' f = P f) :
    getVal P' g = getVal P g := by
  cases g with
  | u64 f | str f | boolAsInt f | decString f => simp only [getVal, h f rfl]
  | missing | unrecognised => rfl

theorem execList_guards {parseDec : String → Option Int} {guardOk : String → Props → Nat → In → Bool}
    {i : In} {P P' : Props} {l : List Stmt} (h : execList parseDec guardOk i P l = some P') :
    execList parseDec guardOk i P (l.dropWhile isGuard) = some P' := by
  induction l generalizing P with
  | nil => simpa using h
  | cons s rest ih =>
    cases s with
    | guard name f =>
      simp only [List.dropWhile, isGuard]
      simp only [execList, execStmt] at h
      split at h <;> try (cases h; done)      -- the guard refuses
      next _ h1 =>                    -- it passes: the record is the same, the rest runs
        split at h1 <;> cases h1
        exact ih h
    | assign _ _ | ifThen _ _ | ifElse _ _ _ | unrecognised => simpa [List.dropWhile, isGuard] using h

theorem execList_assign (parseDec : String → Option Int) (guardOk : String → Props → Nat → In → Bool) (i : In) (P : Props)
    (f : Nat) (e : Expr) :
    execList parseDec guardOk i P [.assign f e] = (eval parseDec i e).map (upd P f) := by
  simp only [execList, execStmt]
  cases eval parseDec i e <;> rfl

theorem execList_ifElse {parseDec : String → Option Int} {guardOk : String → Props → Nat → In → Bool} {i : In} {P : Props}
    {c : Expr} {b : Bool} {A B : List Stmt} (h : eval parseDec i c = some (.b b)) :
    execList parseDec guardOk i P [.ifElse c A B] = execList parseDec guardOk i P (if b then A else B) := by
  cases b <;> simp only [execList, execStmt, h, Bool.false_eq_true, if_false, if_true]
  · cases execList parseDec guardOk i P B <;> rfl
  · cases execList parseDec guardOk i P A <;> rfl

theorem execList_simple {parseDec : String → Option Int} {guardOk : String → Props → Nat → In → Bool} {a : Arm} {i : In}
    {P P' : Props} (hs : simple a = true) (h : execList parseDec guardOk i P a.set = some P') :
    ∃ f v, target a.get = some f ∧ P' = upd P f v ∧ getVal (upd P f v) a.get = requested parseDec i a.get := by
  have h' := execList_guards h
  unfold simple at hs
  split at hs
  -- the three plain assignments: an integer, a string, a boolean given as an integer
  iterate 3
    rename_i f g hset hget
    cases eq_of_beq hs
    rw [hset, execList_assign] at h'
    cases h'
    exact ⟨f, _, hget ▸ rfl, rfl, by simp [hget, getVal, requested]⟩
  · -- a boolean set by `if value > 0`
    rename_i f f' g hset hget
    simp only [Bool.and_eq_true, beq_iff_eq] at hs
    obtain ⟨rfl, rfl⟩ := hs
    rw [hset, execList_ifElse (b := decide (i.value > 0)) rfl] at h'
    by_cases hv : i.value > 0
    · simp only [hv, decide_true, if_true, execList_assign, eval] at h'
      cases h'
      exact ⟨_, _, hget ▸ rfl, rfl, by simp [hget, getVal, requested, Nat.ne_of_gt hv]⟩
    · simp only [hv, decide_false, Bool.false_eq_true, if_false, execList_assign, eval] at h'
      cases h'
      exact ⟨_, _, hget ▸ rfl, rfl, by simp [hget, getVal, requested, Nat.eq_zero_of_not_pos hv]⟩
  · -- a decimal parsed from the string; a failed parse fails the arm
    rename_i f g hset hget
    cases eq_of_beq hs
    rw [hset, execList_assign] at h'
    simp only [eval] at h'
    cases hp : parseDec i.strValue with
    | none => simp [hp] at h'
    | some d =>
      simp only [hp, Option.map_some, Option.some.injEq] at h'
      exact ⟨f, _, hget ▸ rfl, h'.symm, by simp [hget, getVal, requested, hp]⟩
  · cases hs

theorem eq_of_filterMap_nodup {α β : Type} {f : α → Option β} {l : List α} (hn : (l.filterMap f).Nodup)
    {a b : α} (ha : a ∈ l) (hb : b ∈ l) {y : β} (hfa : f a = some y) (hfb : f b = some y) : a = b := by
  -- at two positions of `l` the images differ, so "both are `y`" is absurd there, in either order
  have hp := List.pairwise_filterMap.mp hn
  exact List.Pairwise.forall_of_forall_of_flip (R := fun a b => f a = some y → f b = some y → a = b)
    (fun _ _ _ _ => rfl) (hp.imp fun h ha hb => absurd rfl (h _ ha _ hb))
    (hp.imp fun h ha hb => absurd rfl (h _ hb _ ha)) ha hb hfa hfb

/-- `List.Nodup` as a Boolean function: the kernel evaluates it faster than the `Decidable` instance of `Nodup` -/
def nodupB {α} [BEq α] : List α → Bool
  | [] => true
  | a :: l => !l.contains a && nodupB l

theorem nodup_of_nodupB {α} [BEq α] [LawfulBEq α] : ∀ {l : List α}, nodupB l = true → l.Nodup
  | [], _ => .nil
  | a :: l, h => by
    simp only [nodupB, Bool.and_eq_true, Bool.not_eq_true', List.contains_eq_mem, decide_eq_false_iff_not] at h
    exact List.nodup_cons.mpr ⟨h.1, nodup_of_nodupB h.2⟩

theorem setProperty_some {parseDec : String → Option Int} {guardOk : String → Props → Nat → In → Bool}
    {opaqueSem : String → Props → Bool} {cs : List Cond} {as : List Arm} {id : Nat} {i : In} {P P' : Props}
    (h : setProperty parseDec guardOk opaqueSem cs as id i P = some P') :
    ∃ a, as.find? (fun a => a.id == id) = some a ∧ execList parseDec guardOk i P a.set = some P' ∧
      validate opaqueSem cs P' = true := by
  unfold setProperty at h
  split at h <;> try (cases h; done)      -- no arm for `id`
  split at h <;> try (cases h; done)      -- the arm fails
  split at h <;> cases h          -- the result does not validate
  next a hfind _ hexec hv => exact ⟨a, hfind, hexec, hv⟩

/-- what it says about the record that an error condition does NOT hold: for the order comparisons and the `Dec` tests the fields
have the kind the comparison is about (a nil `Dec` fails every comparison) and the opposite comparison holds; `eqZero` / `strEmpty`
exclude the one value only (a field of another kind, or never written, passes); `opaque` is the parameter's answer, `unrecognised`
never passes -/
def Passes (opaqueSem : String → Props → Bool) (P : Props) : Cond → Prop
  | .eqZero f => asNat (P f) ≠ some 0
  | .strEmpty f => P f ≠ .s ""
  | .ltField a b => ∃ x y, P a = .u x ∧ P b = .u y ∧ y ≤ x
  | .gtField a b => ∃ x y, P a = .u x ∧ P b = .u y ∧ x ≤ y
  | .ltConst f n => ∃ x, P f = .u x ∧ n ≤ x
  | .gtConst f n => ∃ x, P f = .u x ∧ x ≤ n
  | .leConst f n => ∃ x, P f = .u x ∧ n < x
  | .decNil f => ∃ x, P f = .d x
  | .decNeg f => ∃ x, P f = .d x ∧ 0 ≤ x
  | .decGT f l => ∃ x, P f = .d x ∧ x ≤ l
  | .decGTE f l => ∃ x, P f = .d x ∧ x < l
  | .decLT f l => ∃ x, P f = .d x ∧ l ≤ x
  | .decLTE f l => ∃ x, P f = .d x ∧ l < x
  | .or a b => Passes opaqueSem P a ∧ Passes opaqueSem P b
  | .opaque sha => opaqueSem sha P = false
  | .unrecognised => False

theorem asNat_some {v : Val} {n : Nat} (h : asNat v = some n) : v = .u n := by
  cases v <;> simp [asNat] at h; rw [h]
theorem asDec_some {v : Val} {x : Int} (h : asDec v = some x) : v = .d x := by
  cases v <;> simp [asDec] at h; rw [h]

theorem passes_of_not_holds {os} {P : Props} : ∀ {c : Cond}, condHolds os P c = false → Passes os P c
  | .eqZero f, h | .strEmpty f, h | .opaque f, h => by simpa [condHolds, Passes] using h
  | .ltField a b, h | .gtField a b, h => by
    cases ha : asNat (P a) <;> cases hb : asNat (P b) <;> simp [condHolds, ha, hb] at h
    exact ⟨_, _, asNat_some ha, asNat_some hb, h⟩
  | .ltConst f n, h | .gtConst f n, h | .leConst f n, h => by
    cases hf : asNat (P f) <;> simp [condHolds, hf] at h
    exact ⟨_, asNat_some hf, h⟩
  | .decNil f, h => by cases hf : asDec (P f) <;> simp [condHolds, hf] at h; exact ⟨_, asDec_some hf⟩
  | .decNeg f, h | .decGT f l, h | .decGTE f l, h | .decLT f l, h | .decLTE f l, h => by
    cases hf : asDec (P f) <;> simp [condHolds, hf] at h
    exact ⟨_, asDec_some hf, h⟩
  | .or a b, h => by
    simp only [condHolds, Bool.or_eq_false_iff] at h
    exact ⟨passes_of_not_holds h.1, passes_of_not_holds h.2⟩
  | .unrecognised, h => by simp [condHolds] at h

/-- `hc`, that `c` is one of the table's conditions, is an auto-param: for a concrete table the kernel looks it up at each
use; for a variable `cs` it has to be given -/
theorem passes_of_validate {os} {cs : List Cond} {P : Props} (hv : validate os cs P = true) (c : Cond)
    (hc : cs.contains c = true := by decide +kernel) : Passes os P c := by
  unfold validate at hv
  rw [List.all_eq_true] at hv
  exact passes_of_not_holds (by simpa using hv c (by simpa using hc))

/-- the Go idiom `x.IsNil() || x.IsNegative() || x.GT(l)` -/
theorem decRange {os} {cs : List Cond} {P : Props} (hv : validate os cs P = true) (f : Nat) (l : Int)
    (hc : cs.contains (.or (.or (.decNil f) (.decNeg f)) (.decGT f l)) = true := by decide +kernel) :
    ∃ x, P f = .d x ∧ 0 ≤ x ∧ x ≤ l := by
  obtain ⟨⟨_, x, hx, h0⟩, y, hy, h1⟩ := passes_of_validate hv _ hc
  cases hx.symm.trans hy
  exact ⟨x, hx, h0, h1⟩

end Sekai.NetProps
