import SekaiProofs.Lemmas.BasketCoins
import SekaiProofs.Lemmas.Dec
/-! The token list of a basket record: reserves and value under `addAmt` / `incTokens` / `decTokens` ("the last token of a
denom wins"), what lookups, quotes and mint values see of a list (its static part only), the withdraw loop of a burn,
and the lists `reconfig` and `EditBasket` build. Two more facts about `mintValue` and `withdrawCoins` are
property theorems and stand in Props/C11 (`mintValue_exact`, `burn_withdraws_enabled`). -/
namespace Sekai.Lemmas.Basket
open Sekai Sekai.Basket

/-- the part of a token that mint / burn / swap never change -/
def static (t : Token) : Denom × Dec.D × Bool × Bool × Bool := (t.denom, t.weight, t.deposits, t.withdraws, t.swaps)

theorem weight_of_static {t' t : Token} (h : static t' = static t) : t'.weight = t.weight := congrArg (·.2.1) h

theorem deposits_of_static {t' t : Token} (h : static t' = static t) : t'.deposits = t.deposits := congrArg (·.2.2.1) h

def NonNeg (ts : List Token) : Prop := ∀ t ∈ ts, 0 ≤ t.amount

theorem reserveOf_nonneg (ts : List Token) (h : NonNeg ts) (d : Denom) : 0 ≤ reserveOf ts d := by
  induction ts with
  | nil => exact Int.le_refl 0
  | cons t ts ih =>
    obtain ⟨ht, hts⟩ := List.forall_mem_cons.mp h
    have := ih hts
    simp only [reserveOf]
    omega

theorem reserveOf_eq_zero (ts : List Token) (d : Denom) (h : ∀ t ∈ ts, t.denom ≠ d) : reserveOf ts d = 0 := by
  induction ts with
  | nil => rfl
  | cons t ts ih =>
    obtain ⟨h1, h2⟩ := List.forall_mem_cons.mp h
    simp only [reserveOf, if_neg h1, ih h2]
    rfl

theorem mem_le_reserveOf (ts : List Token) (t : Token) (hn : NonNeg ts) (hm : t ∈ ts) :
    t.amount ≤ reserveOf ts t.denom := by
  induction ts with
  | nil => cases hm
  | cons x xs ih =>
    obtain ⟨hx, hxs⟩ := List.forall_mem_cons.mp hn
    have hr := reserveOf_nonneg xs hxs t.denom
    simp only [reserveOf]
    rcases List.mem_cons.mp hm with rfl | hm
    · simp only [if_true]; omega
    · have := ih hxs hm
      omega

theorem reserveOf_append (l r : List Token) (d : Denom) : reserveOf (l ++ r) d = reserveOf l d + reserveOf r d := by
  induction l with
  | nil => simp [reserveOf]
  | cons t l ih => simp only [List.cons_append, reserveOf, ih]; omega

theorem totalVal_append (l r : List Token) : totalVal (l ++ r) = totalVal l + totalVal r := by
  induction l with
  | nil => simp [totalVal]
  | cons t l ih => simp only [List.cons_append, totalVal, ih]; exact (Int.add_assoc _ _ _).symm

theorem addAmt_cases (d : Denom) (δ : Int) (ts : List Token) :
    (lookupLast d ts = none ∧ addAmt d δ ts = none) ∨
    ∃ l t r, ts = l ++ t :: r ∧ t.denom = d ∧ lookupLast d ts = some t ∧
      addAmt d δ ts = some (l ++ { t with amount := t.amount + δ } :: r) := by
  induction ts with
  | nil => exact .inl ⟨rfl, rfl⟩
  | cons x xs ih =>
    unfold lookupLast addAmt
    rcases ih with ⟨hl, ha⟩ | ⟨l, t, r, rfl, hd, hl, ha⟩
    · rw [hl, ha]
      by_cases hx : x.denom = d
      · exact .inr ⟨[], x, xs, rfl, hx, by simp [hx], by simp [hx]⟩
      · exact .inl ⟨by simp [hx], by simp [hx]⟩
    · rw [hl, ha]
      exact .inr ⟨x :: l, t, r, rfl, hd, rfl, rfl⟩

theorem lookupLast_mem {d : Denom} {ts : List Token} {t : Token} (h : lookupLast d ts = some t) :
    t ∈ ts ∧ t.denom = d := by
  -- `addAmt_cases` is the one induction over `lookupLast`; the `δ` it adds is irrelevant here
  rcases addAmt_cases d 0 ts with ⟨hn, _⟩ | ⟨l, t', r, rfl, hd, hl, _⟩
  · rw [hn] at h; cases h
  · rw [hl] at h; cases h; exact ⟨by simp, hd⟩

/-- what `addAmt d δ` has done to a list in which `d` finds `t` -/
structure AddAmt (d : Denom) (δ : Int) (ts ts' : List Token) (t : Token) : Prop where
  found : lookupLast d ts = some t
  reserves : ∀ d', reserveOf ts' d' = reserveOf ts d' + (if d = d' then δ else 0)
  static_eq : ts'.map static = ts.map static
  value : totalVal ts' = totalVal ts + δ * t.weight
  nonNeg : NonNeg ts → 0 ≤ t.amount + δ → NonNeg ts'

theorem addAmt_spec {d : Denom} {δ : Int} {ts ts' : List Token} (h : addAmt d δ ts = some ts') :
    ∃ t, AddAmt d δ ts ts' t := by
  rcases addAmt_cases d δ ts with ⟨_, hn⟩ | ⟨l, t, r, rfl, rfl, hl, ha⟩
  · rw [hn] at h; cases h
  rw [ha] at h; cases h
  refine ⟨t, { found := hl, reserves := fun d' => ?_, static_eq := ?_, value := ?_, nonNeg := fun hn h0 x hx => ?_ }⟩
  · simp only [reserveOf_append, reserveOf]; split <;> omega
  · simp only [List.map_append, List.map_cons, static]
  · simp only [totalVal_append, totalVal, Dec.ofInt_mul, Int.add_mul]
    rw [Int.add_right_comm (t.amount * t.weight), ← Int.add_assoc]
  · simp only [List.mem_append, List.mem_cons] at hx
    rcases hx with hx | rfl | hx
    · exact hn x (by simp [hx])
    · exact h0
    · exact hn x (by simp [hx])

theorem subAmt_spec {d : Denom} {δ : Int} {ts ts' : List Token} (h : subAmt d δ ts = some ts') :
    (∀ d', reserveOf ts' d' = reserveOf ts d' - (if d = d' then δ else 0)) ∧
    ts'.map static = ts.map static ∧ (NonNeg ts → NonNeg ts') := by
  unfold subAmt at h
  split at h
  · cases h                                        -- the denom is no token of the basket
  · rename_i t ht
    split at h
    · cases h                                      -- the token's amount would fall below 0
    · obtain ⟨t', a⟩ := addAmt_spec h              -- `-δ` is added to the token found
      obtain rfl : t = t' := Option.some.inj (ht.symm.trans a.found)
      exact ⟨fun d' => by rw [a.reserves]; split <;> omega, a.static_eq, fun hn => a.nonNeg hn (by omega)⟩

theorem incTokens_spec {cs : Coins} {ts ts' : List Token} (h : incTokens ts cs = some ts') :
    (∀ d, reserveOf ts' d = reserveOf ts d + amountOf cs d) ∧ ts'.map static = ts.map static ∧
    (AllPos cs → NonNeg ts → NonNeg ts') := by
  fun_induction incTokens ts cs with
  | case1 ts => cases h; exact ⟨fun d => by simp [amountOf], rfl, fun _ hn => hn⟩   -- no coin left
  | case2 => cases h                                                                -- the denom is no token of the basket
  | case3 ts c cs ts1 h1 ih =>                                                      -- `c` is booked (giving `ts1`), then the rest
    obtain ⟨t, a⟩ := addAmt_spec h1
    obtain ⟨f1, f2, f3⟩ := ih h
    refine ⟨fun d => ?_, by rw [f2, a.static_eq], fun hp hn => ?_⟩
    · rw [f1, a.reserves]; simp only [amountOf]; omega
    · obtain ⟨hc, hcs⟩ := List.forall_mem_cons.mp hp
      have := hn t (lookupLast_mem a.found).1
      exact f3 hcs (a.nonNeg hn (by omega))

theorem decTokens_spec {cs : Coins} {ts ts' : List Token} (h : decTokens ts cs = some ts') :
    (∀ d, reserveOf ts' d = reserveOf ts d - amountOf cs d) ∧ ts'.map static = ts.map static ∧
    (NonNeg ts → NonNeg ts') := by
  fun_induction decTokens ts cs with
  | case1 ts => cases h; exact ⟨fun d => by simp [amountOf], rfl, fun hn => hn⟩     -- no coin left
  | case2 => cases h                                                                -- `c` cannot be taken off its token
  | case3 ts c cs ts1 h1 ih =>                                                      -- `c` is taken off (giving `ts1`), then the rest
    obtain ⟨e1, e2, e3⟩ := subAmt_spec h1
    obtain ⟨f1, f2, f3⟩ := ih h
    refine ⟨fun d => ?_, by rw [f2, e2], fun hn => f3 (e3 hn)⟩
    rw [f1, e1]; simp only [amountOf]; omega

theorem lookupLast_static (d : Denom) {ts ts' : List Token} (h : ts'.map static = ts.map static) :
    (lookupLast d ts' = none ∧ lookupLast d ts = none) ∨
    ∃ t' t, lookupLast d ts' = some t' ∧ lookupLast d ts = some t ∧ static t' = static t := by
  induction ts generalizing ts' with
  | nil =>
    cases ts' with
    | nil => exact .inl ⟨rfl, rfl⟩
    | cons a b => simp at h
  | cons t ts ih =>
    cases ts' with
    | nil => simp at h
    | cons t' ts' =>
      simp only [List.map, List.cons.injEq] at h
      unfold lookupLast
      rcases ih h.2 with ⟨e1, e2⟩ | ⟨u', u, e1, e2, hs⟩
      · rw [e1, e2]
        have hden : t'.denom = t.denom := congrArg Prod.fst h.1
        by_cases hd : t.denom = d
        · exact .inr ⟨t', t, by simp [hden, hd], by simp [hd], h.1⟩
        · exact .inl ⟨by simp [hden, hd], by simp [hd]⟩
      · rw [e1, e2]
        exact .inr ⟨u', u, rfl, rfl, hs⟩

theorem lookupLast_map_static (d : Denom) {ts ts' : List Token} (h : ts'.map static = ts.map static) :
    (lookupLast d ts').map static = (lookupLast d ts).map static := by
  rcases lookupLast_static d h with ⟨e1, e2⟩ | ⟨t', t, e1, e2, hs⟩
  · rw [e1, e2]
  · rw [e1, e2]; exact congrArg some hs

theorem quote_static (fee : Dec.D) {ts ts' : List Token} (c : Coin) (o : Denom)
    (h : ts'.map static = ts.map static) : quote fee ts' c o = quote fee ts c o := by
  unfold quote
  rcases lookupLast_static c.denom h with ⟨e1, e2⟩ | ⟨ti', ti, e1, e2, hi⟩
  · rw [e1, e2]
  rcases lookupLast_static o h with ⟨e3, e4⟩ | ⟨to', to, e3, e4, ho⟩
  · rw [e1, e2, e3, e4]
  · rw [e1, e2, e3, e4]
    simp only [weight_of_static hi, weight_of_static ho]

theorem mintValue_static {ts ts' : List Token} (cs : Coins) (h : ts'.map static = ts.map static) :
    mintValue ts' cs = mintValue ts cs := by
  induction cs with
  | nil => rfl
  | cons c cs ih =>
    unfold mintValue
    rcases lookupLast_static c.denom h with ⟨e1, e2⟩ | ⟨t', t, e1, e2, hs⟩
    · rw [e1, e2]
    · rw [e1, e2]
      simp only [weight_of_static hs, deposits_of_static hs, ih]

theorem mintValue_deposits_enabled {ts : List Token} {dep : Coins} {v : Dec.D} (h : mintValue ts dep = some v) :
    ∀ c ∈ dep, ∃ t, lookupLast c.denom ts = some t ∧ t.deposits = true := by
  fun_induction mintValue ts dep generalizing v with
  | case1 => exact fun _ hc => nomatch hc        -- no coin left
  | case2 | case3 | case5 => cases h             -- unknown denom / the rest fails / deposits disabled
  | case4 c cs t ht hdep v' hv' ih =>            -- `c` is a token with deposits enabled, the rest is worth `v'`
    exact List.forall_mem_cons.mpr ⟨⟨t, ht, hdep⟩, ih hv'⟩

theorem incTokens_totalVal {cs : Coins} {ts ts' : List Token} {v : Dec.D}
    (h : incTokens ts cs = some ts') (hv : mintValue ts cs = some v) : totalVal ts' = totalVal ts + v := by
  fun_induction incTokens ts cs generalizing v with
  | case1 ts => cases h; cases hv; exact (Int.add_zero _).symm     -- no coin left
  | case2 => cases h                                               -- the denom is no token of the basket
  | case3 ts c cs ts1 h1 ih =>                                     -- `c` is booked (giving `ts1`), then the rest
    obtain ⟨t, a⟩ := addAmt_spec h1
    unfold mintValue at hv
    rw [a.found] at hv
    simp only at hv
    split at hv
    · split at hv
      · cases hv                                   -- the rest of the deposit has no value
      · rename_i v' hv'                            -- deposits enabled, the rest is worth `v'`
        cases hv
        -- the rest of the deposit is valued at the same weights before and after the first coin is booked
        rw [ih h (by rw [mintValue_static cs a.static_eq]; exact hv'), a.value, Dec.ofInt_mul]
        exact Int.add_assoc _ _ _
    · cases hv                                     -- deposits disabled

theorem withdrawCoins_eq_nil_of_portion_nonpos (portion : Int) (ts : List Token) (hp : portion ≤ 0) (hn : NonNeg ts) :
    withdrawCoins portion ts = [] := by
  fun_induction withdrawCoins portion ts with
  | case1 => rfl                                   -- no token left
  | case2 t ts rest _ w hw =>                      -- `t` pays `w > 0`: impossible for a portion ≤ 0
    have := Dec.truncInt_nonpos (Int.mul_nonpos_of_nonneg_of_nonpos (hn t List.mem_cons_self) hp)
    simp only [w, Dec.ofInt_mul] at hw
    omega
  | case3 t ts rest _ w _ ih | case4 t ts rest _ ih => exact ih (List.forall_mem_cons.mp hn).2   -- `w ≤ 0` / withdraws disabled

theorem withdrawCoins_le (portion : Int) (ts : List Token) (hp : 0 ≤ portion) (hn : NonNeg ts) (d : Denom) :
    amountOf (withdrawCoins portion ts) d * Dec.P ≤ reserveOf ts d * portion := by
  fun_induction withdrawCoins portion ts with
  | case1 => simp [amountOf, reserveOf]            -- no token left
  | case2 t ts rest _ w _ ih =>                    -- `t` pays `w = ⌊amount·portion⌋ > 0`
    obtain ⟨ht, hts⟩ := List.forall_mem_cons.mp hn
    have hw := (Dec.truncInt_bounds (Int.mul_nonneg ht hp)).1
    have := ih hts
    simp only [amountOf, reserveOf, Int.add_mul, w, rest, Dec.ofInt_mul]
    split <;> omega
  | case3 t ts rest _ w _ ih | case4 t ts rest _ ih =>   -- `t` pays nothing: `w ≤ 0` / withdraws disabled
    obtain ⟨ht, hts⟩ := List.forall_mem_cons.mp hn
    have hprod := Int.mul_nonneg ht hp
    have := ih hts
    simp only [reserveOf, Int.add_mul, rest]
    split <;> omega

theorem withdrawCoins_allPos (portion : Int) (ts : List Token) : AllPos (withdrawCoins portion ts) := by
  fun_induction withdrawCoins portion ts with
  | case1 => exact fun _ hc => nomatch hc                                   -- no token left
  | case2 t ts rest _ w hw ih => exact List.forall_mem_cons.mpr ⟨hw, ih⟩    -- `t` pays `w > 0`
  | case3 t ts rest _ w _ ih | case4 t ts rest _ ih => exact ih             -- `t` pays nothing

theorem reserveOf_retok (old tw : List Token) (d : Denom) : reserveOf (retok old tw) d = reserveOf old d := by
  induction old with
  | nil => rfl
  | cons t ts ih =>
    unfold retok at ih ⊢
    simp only [List.map, reserveOf, ih]
    split <;> rfl

theorem denomsNodup_cons {t : Token} {ts : List Token} (h : denomsNodup (t :: ts) = true) :
    (∀ u ∈ ts, u.denom ≠ t.denom) ∧ denomsNodup ts = true := by
  unfold denomsNodup at h
  simp only [Bool.and_eq_true, Bool.not_eq_true', List.any_eq_false, decide_eq_true_eq] at h
  exact ⟨fun u hu => h.1 u hu, h.2⟩

/-- the token `EditBasket` stores for `t`: its amount carried over by denom -/
def carryAmount (old : List Token) (t : Token) : Token :=
  match lookupLast t.denom old with
  | some o => { t with amount := o.amount }
  | none => { t with amount := 0 }

theorem carryAmount_denom (old : List Token) (t : Token) : (carryAmount old t).denom = t.denom := by
  unfold carryAmount; split <;> rfl

theorem carryAmount_le (old : List Token) (t : Token) (hn : NonNeg old) :
    0 ≤ (carryAmount old t).amount ∧ (carryAmount old t).amount ≤ reserveOf old t.denom := by
  unfold carryAmount
  split
  · rename_i o ho
    obtain ⟨hm, hd⟩ := lookupLast_mem ho
    exact ⟨hn o hm, hd ▸ mem_le_reserveOf old o hn hm⟩
  · exact ⟨Int.le_refl 0, reserveOf_nonneg old hn _⟩

/-- the new denoms are distinct, so each carries over at most what the old list held for it -/
theorem reserveOf_carryAmount_le (old new : List Token) (hn : NonNeg old) (hnd : denomsNodup new = true) (d : Denom) :
    reserveOf (new.map (carryAmount old)) d ≤ reserveOf old d ∧ NonNeg (new.map (carryAmount old)) := by
  induction new with
  | nil => exact ⟨reserveOf_nonneg old hn d, fun t ht => nomatch ht⟩
  | cons t ts ih =>
    obtain ⟨h1, h2⟩ := denomsNodup_cons hnd
    obtain ⟨i1, i2⟩ := ih h2
    obtain ⟨c1, c2⟩ := carryAmount_le old t hn
    refine ⟨?_, List.forall_mem_cons.mpr ⟨c1, i2⟩⟩
    simp only [List.map, reserveOf, carryAmount_denom]
    by_cases hd : t.denom = d
    · have hz : reserveOf (ts.map (carryAmount old)) d = 0 := by
        apply reserveOf_eq_zero
        intro u hu
        obtain ⟨u', hu', rfl⟩ := List.mem_map.mp hu
        rw [carryAmount_denom, ← hd]
        exact h1 u' hu'
      simp only [hd, if_true, hz]
      rw [hd] at c2
      omega
    · simp only [hd, if_false]; omega

end Sekai.Lemmas.Basket
