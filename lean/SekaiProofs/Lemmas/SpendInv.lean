import SekaiProofs.Lemmas.Spend
/-! What the operations of the spending-pool model, and the two things its environment can do to it (a transfer, the UBI
mint-and-deposit), preserve, a deposit or transfer provided the module account is not the sender: `Solvent` (module balance
≥ Σ pool records) and, for those that pay nobody, `FundsKept` (nothing leaves the module account or any pool record). Where
one pool record is replaced (claim, deposit, update, withdraw) it is an instance of `Solvent.setPool`, for deposit and update
also of `FundsKept.setPool`. -/
namespace Sekai.Spend

theorem Solvent.setPool {s s' : State} {n : Nat} {p p' : Pool} (hs : Solvent s) (hp : findPool s.pools n = some p)
    (hpools : s'.pools = setPool s.pools p') (hn : p'.name = p.name)
    (h : ∀ d, s.bank SPEND d + p'.bal d ≤ s'.bank SPEND d + p.bal d) : Solvent s' := by
  intro d
  rw [hpools]
  have h1 := sumPools_setPool d hp hn
  have h3 := hs d
  have h4 := h d
  omega

theorem solvent_claim {s s' : State} {n : Nat} {a : Addr} {now : Nat} (hs : Solvent s) (h : claim s n a now = .ok s') : Solvent s' := by
  obtain ⟨p, ci, dur, hc⟩ := claim_ok h
  obtain rfl := hc.state
  refine hs.setPool hc.pool rfl rfl fun d => ?_
  have h1 := hc.le_record d
  have h2 := move_from_ge s.bank SPEND a (paidOf p dur (benWeight p s.actors a)) d
  simp only [Amt.sub]
  omega

theorem solvent_create {s s' : State} {ok : Bool} {n : Nat} {x : PoolArgs} {now : Nat} (hs : Solvent s) (h : create s ok n x now = .ok s') : Solvent s' := by
  obtain ⟨_, _, rfl⟩ := create_ok h
  intro d
  have := hs d
  -- the new record holds nothing
  simp only [sumPools_append, sumPools, Amt.zero]
  omega

theorem solvent_deposit {s s' : State} {frm : Addr} {n : Nat} {coins : List (Denom × Nat)} (hs : Solvent s)
    (hf : frm ≠ SPEND) (h : deposit s frm n coins = .ok s') : Solvent s' := by
  obtain ⟨p, hp, _, rfl⟩ := deposit_ok h
  refine hs.setPool hp rfl rfl fun d => ?_
  simp only [move_to s.bank frm SPEND _ hf d, Amt.add]
  omega

theorem solvent_register {s s' : State} {n : Nat} {a : Addr} {now : Nat} (hs : Solvent s) (h : register s n a now = .ok s') : Solvent s' := by
  obtain ⟨_, _, _, rfl⟩ := register_ok h
  exact hs

theorem solvent_update {s s' : State} {n : Nat} {x : PoolArgs} (hs : Solvent s) (h : update s n x = .ok s') : Solvent s' := by
  obtain ⟨p, hp, rfl⟩ := update_ok h
  exact hs.setPool hp rfl (findPool_name hp).symm fun d => Nat.le_refl _

theorem solvent_distribute {s s' : State} {n : Nat} {now : Nat} (hs : Solvent s) (h : distribute s n now = .ok s') : Solvent s' := by
  obtain ⟨_, _, hl⟩ := distribute_ok h
  exact claimAll_induct (fun _ _ _ _ hc hs => solvent_claim hs hc) hl hs

theorem solvent_withdraw {s s' : State} {n : Nat} {bens : List Addr} {coins : List (Denom × Nat)} (hs : Solvent s)
    (h : withdraw s n bens coins = .ok s') : Solvent s' := by
  obtain ⟨p, bank', bal', hp, hl, rfl⟩ := withdraw_ok h
  exact hs.setPool hp rfl rfl (withdrawLoop_effect hl).2

theorem solvent_endBlock {s s' : State} {pfx : Nat → Nat → Addr → Bool} {now : Nat} (hs : Solvent s) (h : endBlock s pfx now = .ok s') : Solvent s' := by
  obtain ⟨ps, hp, rfl⟩ := endBlock_ok h
  intro d
  rw [(endPools_frame hp).1 d]
  exact hs d

theorem solvent_send {s : State} {f t : Addr} {c : List (Denom × Nat)} {b : Bank} (hs : Solvent s) (hf : f ≠ SPEND)
    (h : s.bank.send f t c = .ok b) : Solvent { s with bank := b } := by
  obtain ⟨_, rfl⟩ := send_ok h
  intro d
  exact Nat.le_trans (hs d) (move_ge s.bank f t SPEND _ (fun e => hf e.symm) d)

/-- the UBI payout path: mint to the `mint` module (which does not touch the spending account), deposit from it -/
theorem solvent_mintDeposit {s s' : State} {n : Nat} {c : List (Denom × Nat)} (hs : Solvent s)
    (h : deposit { s with bank := s.bank.credit MINT (Amt.ofList c) } MINT n c = .ok s') : Solvent s' := by
  refine solvent_deposit (fun d => ?_) (by decide) h
  show sumPools s.pools d ≤ (s.bank.credit MINT (Amt.ofList c)) SPEND d
  rw [credit_other s.bank MINT SPEND _ (by decide)]
  exact hs d

/-- nothing has left: the module account and every pool record hold at least what they held -/
structure FundsKept (s s' : State) : Prop where
  bank : ∀ d, s.bank SPEND d ≤ s'.bank SPEND d
  pools : ∀ n p, findPool s.pools n = some p → ∃ p', findPool s'.pools n = some p' ∧ ∀ d, p.bal d ≤ p'.bal d

theorem FundsKept.of_pools_eq {s s' : State} (hb : ∀ d, s.bank SPEND d ≤ s'.bank SPEND d) (hp : s'.pools = s.pools) :
    FundsKept s s' :=
  ⟨hb, fun _ p h => ⟨p, hp ▸ h, fun _ => Nat.le_refl _⟩⟩

theorem FundsKept.setPool {s s' : State} {n : Nat} {p p' : Pool} (hp : findPool s.pools n = some p)
    (hpools : s'.pools = setPool s.pools p') (hn : p'.name = p.name) (hbal : ∀ d, p.bal d ≤ p'.bal d)
    (hbank : ∀ d, s.bank SPEND d ≤ s'.bank SPEND d) : FundsKept s s' := by
  refine ⟨hbank, fun m q hq => ?_⟩
  rw [hpools]
  by_cases hm : n = m
  · subst hm
    rw [hp] at hq; cases hq
    exact ⟨p', findPool_setPool hp hn, hbal⟩
  · rw [findPool_setPool_other ((hn.trans (findPool_name hp)) ▸ hm)]
    exact ⟨q, hq, fun _ => Nat.le_refl _⟩

theorem create_fundsKept {s s' : State} {ok : Bool} {n : Nat} {x : PoolArgs} {now : Nat} (h : create s ok n x now = .ok s') : FundsKept s s' := by
  obtain ⟨_, _, rfl⟩ := create_ok h
  exact ⟨fun _ => Nat.le_refl _, fun n q hq => ⟨q, findPool_append_left hq, fun _ => Nat.le_refl _⟩⟩

theorem deposit_fundsKept {s s' : State} {frm : Addr} {n : Nat} {coins : List (Denom × Nat)} (hf : frm ≠ SPEND)
    (h : deposit s frm n coins = .ok s') : FundsKept s s' := by
  obtain ⟨p, hp, _, rfl⟩ := deposit_ok h
  exact .setPool hp rfl rfl (fun d => Nat.le_add_right _ _) (fun d => move_ge s.bank frm SPEND SPEND _ (fun e => hf e.symm) d)

theorem register_fundsKept {s s' : State} {n : Nat} {a : Addr} {now : Nat} (h : register s n a now = .ok s') : FundsKept s s' := by
  obtain ⟨_, _, _, rfl⟩ := register_ok h
  exact .of_pools_eq (fun _ => Nat.le_refl _) rfl

theorem update_fundsKept {s s' : State} {n : Nat} {x : PoolArgs} (h : update s n x = .ok s') : FundsKept s s' := by
  obtain ⟨p, hp, rfl⟩ := update_ok h
  exact .setPool hp rfl (findPool_name hp).symm (fun _ => Nat.le_refl _) (fun _ => Nat.le_refl _)

theorem endBlock_fundsKept {s s' : State} {pfx : Nat → Nat → Addr → Bool} {now : Nat} (h : endBlock s pfx now = .ok s') : FundsKept s s' := by
  obtain ⟨ps, hp, rfl⟩ := endBlock_ok h
  refine ⟨fun _ => Nat.le_refl _, fun n p hf => ?_⟩
  obtain ⟨p', hp', hb⟩ := (endPools_frame hp).2 n p hf
  exact ⟨p', hp', fun d => by rw [hb]; exact Nat.le_refl _⟩

theorem send_fundsKept {s : State} {f t : Addr} {c : List (Denom × Nat)} {b : Bank} (hf : f ≠ SPEND)
    (h : s.bank.send f t c = .ok b) : FundsKept s { s with bank := b } := by
  obtain ⟨_, rfl⟩ := send_ok h
  exact .of_pools_eq (move_ge s.bank f t SPEND _ (fun e => hf e.symm)) rfl

theorem mintDeposit_fundsKept {s s' : State} {n : Nat} {c : List (Denom × Nat)}
    (h : deposit { s with bank := s.bank.credit MINT (Amt.ofList c) } MINT n c = .ok s') : FundsKept s s' := by
  have hk := deposit_fundsKept (by decide) h
  refine ⟨fun d => ?_, hk.pools⟩
  rw [← credit_other s.bank MINT SPEND (Amt.ofList c) (by decide)]
  exact hk.bank d

end Sekai.Spend
