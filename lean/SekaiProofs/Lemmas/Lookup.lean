/-! Facts that mention no model. (1) A list searched by key with `find?` after entries are filtered out or consed on (the
`Delete` / `Set` of a keyed list): Ident, and `find?_filter_of_imp` also the recovery model's copy of the registry.
(2) `nodup_append_singleton` (Ante, Layer2Store, Perm, C08). (3) `carry`, a function store whose entry is carried from one key to
another (Recovery, Custody). The namespace is `Sekai` itself, so that every model's namespace sees these names unqualified. -/
namespace Sekai

theorem find?_filter_of_imp {α : Type} (p q : α → Bool) (l : List α) (h : ∀ x, p x = true → q x = true) :
    (l.filter q).find? p = l.find? p := by
  rw [List.find?_filter]
  congr 1
  funext x
  cases hp : p x
  · simp
  · simp [h x hp]

theorem find?_filter_key {α : Type} (key : α → Nat) (l : List α) (d id : Nat) :
    (l.filter (fun x => key x != d)).find? (fun x => key x == id)
      = if d = id then none else l.find? (fun x => key x == id) := by
  by_cases h : d = id
  · rw [if_pos h, List.find?_eq_none]
    intro x hx
    simpa [h] using (List.mem_filter.mp hx).2
  · rw [if_neg h]
    apply find?_filter_of_imp
    intro x hx
    have : key x = id := by simpa using hx
    simp [this]; exact fun e => h e.symm

theorem find?_cons_filter_key {α : Type} (key : α → Nat) (l : List α) (x : α) (id : Nat) :
    (x :: l.filter (fun y => key y != key x)).find? (fun y => key y == id)
      = if key x = id then some x else l.find? (fun y => key y == id) := by
  by_cases h : key x = id
  · simp [h]
  · have h' : (key x == id) = false := by simpa using h
    rw [List.find?_cons, h', find?_filter_key, if_neg h, if_neg h]

theorem filter_key_ne_self {α : Type} (key : α → Nat) (l : List α) (d : Nat)
    (h : l.find? (fun x => key x == d) = none) : l.filter (fun x => key x != d) = l := by
  rw [List.filter_eq_self]
  intro x hx
  have := List.find?_eq_none.mp h x hx
  simpa using this

theorem nodup_append_singleton {α} {l : List α} {x : α} (hl : l.Nodup) (hx : x ∉ l) : (l ++ [x]).Nodup :=
  List.nodup_append.mpr ⟨hl, List.nodup_cons.mpr ⟨List.not_mem_nil, List.nodup_nil⟩,
    fun _ ha _ hb e => hx (List.mem_singleton.mp hb ▸ e ▸ ha)⟩

/-- `x, found := Get(old); if found { Delete(old); Set(new, x) }` on one store keyed by the address -/
def carry {α : Type} (old new : Nat) (f : Nat → Option α) : Nat → Option α :=
  match f old with
  | some v => fun a => if a = new then some v else if a = old then none else f a
  | none => f

theorem carry_of_some {α : Type} {old new : Nat} {f : Nat → Option α} {v : α} (h : f old = some v) (a : Nat) :
    carry old new f a = if a = new then some v else if a = old then none else f a := by
  simp only [carry, h]

theorem carry_of_none {α : Type} {old new : Nat} {f : Nat → Option α} (h : f old = none) : carry old new f = f := by
  simp only [carry, h]

theorem carry_other {α : Type} {old new a : Nat} (f : Nat → Option α) (h1 : a ≠ old) (h2 : a ≠ new) :
    carry old new f a = f a := by
  cases h : f old with
  | none => rw [carry_of_none h]
  | some v => rw [carry_of_some h, if_neg h2, if_neg h1]

theorem carry_new {α : Type} {old new : Nat} {f : Nat → Option α} {v : α} (h : f old = some v) :
    carry old new f new = some v := by
  rw [carry_of_some h, if_pos rfl]

/-- nothing is left under the old key, whether or not there was an entry -/
theorem carry_old {α : Type} {old new : Nat} (f : Nat → Option α) (hne : old ≠ new) : carry old new f old = none := by
  cases h : f old with
  | none => rw [carry_of_none h, h]
  | some v => rw [carry_of_some h, if_neg hne, if_pos rfl]

theorem carry_some {α : Type} {old new a : Nat} {f : Nat → Option α} {v : α} (h : carry old new f a = some v) :
    (a = new ∧ f old = some v) ∨ (a ≠ old ∧ f a = some v) := by
  cases ho : f old with
  | none =>
    rw [carry_of_none ho] at h
    exact .inr ⟨fun e => (by rw [e, ho] at h; cases h), h⟩
  | some w =>
    rw [carry_of_some ho] at h
    split at h
    · exact .inl ⟨‹_›, h⟩
    · split at h
      · cases h
      · exact .inr ⟨‹_›, h⟩

theorem carry_inj {α : Type} {old new : Nat} {f : Nat → Option α} (hf : ∀ a b v, f a = some v → f b = some v → a = b)
    (a b : Nat) (v : α) (ha : carry old new f a = some v) (hb : carry old new f b = some v) : a = b := by
  rcases carry_some ha with ⟨a1, a2⟩ | ⟨a1, a2⟩ <;> rcases carry_some hb with ⟨b1, b2⟩ | ⟨b1, b2⟩
  · rw [a1, b1]
  · exact absurd (hf b old v b2 a2) b1
  · exact absurd (hf a old v a2 b2) a1
  · exact hf a b v a2 b2

end Sekai
