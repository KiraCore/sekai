import SekaiProofs.Lemmas.MultiStakeCoins
/-! What `IncreasePoolRewards` credits: per share denom the allocation `RoundInt(reward · StakeCap)` is split by integer
division over the delegators' holdings, so the credits of a denom never exceed its allocation as long as the holdings do not
exceed the recorded total; and the sums in which C10 states its bound (per denom the rounded part, over the pool their sum). -/
namespace Sekai.MultiStake
open Sekai AMap

/-- `Σ_{a ∈ l} f a` (a plain finite sum with its own recursion, like `Recovery.sumF`; it occurs in C10's statements) -/
def sumOver (l : List Nat) (f : Nat → Nat) : Nat :=
  match l with
  | [] => 0
  | a :: r => f a + sumOver r f

theorem sumOver_add (l : List Nat) (f g : Nat → Nat) : sumOver l (fun a => f a + g a) = sumOver l f + sumOver l g := by
  induction l with
  | nil => rfl
  | cons a r ih => simp only [sumOver, ih]; omega

theorem sumOver_zero (l : List Nat) : sumOver l (fun _ => 0) = 0 := by
  induction l with
  | nil => rfl
  | cons a r ih => simp only [sumOver, ih]

theorem sumOver_le (l : List Nat) (f g : Nat → Nat) (h : ∀ a, f a ≤ g a) : sumOver l f ≤ sumOver l g := by
  induction l with
  | nil => exact Nat.le_refl _
  | cons a r ih => simp only [sumOver]; have := h a; omega

theorem sum_div_le (x T : Nat) (l : List Nat) (f : Nat → Nat) (hT : 0 < T) (h : sumOver l f ≤ T) :
    sumOver l (fun a => x * f a / T) ≤ x := by
  have key : ∀ l : List Nat, sumOver l (fun a => x * f a / T) * T ≤ x * sumOver l f := by
    intro l
    induction l with
    | nil => simp [sumOver]
    | cons a r ih =>
      simp only [sumOver]
      have h1 : x * f a / T * T ≤ x * f a := Nat.div_mul_le_self _ _
      rw [Nat.add_mul, Nat.mul_add]
      omega
  exact Nat.le_of_mul_le_mul_right (Nat.le_trans (key l) (Nat.mul_le_mul_left x h)) hT

theorem get_delegatorPart (alloc : Coins) (b T : Nat) (d : Denom) (d0 : Denom) (x : Nat) :
    get (delegatorPart ((d0, x) :: alloc) b T) d = (if d0 = d then x * b / T else 0) + get (delegatorPart alloc b T) d := by
  simp [delegatorPart, get_cons]

theorem parts_le (alloc : Coins) (l : List Nat) (f : Nat → Nat) (T : Nat) (hT : 0 < T) (h : sumOver l f ≤ T) (d : Denom) :
    sumOver l (fun a => get (delegatorPart alloc (f a) T) d) ≤ get alloc d := by
  induction alloc with
  | nil => simp [delegatorPart, sumOver_zero]
  | cons x r ih =>
    obtain ⟨d0, n0⟩ := x
    simp only [get_delegatorPart, sumOver_add, get_cons]
    by_cases hd : d0 = d
    · simp only [hd, if_true]
      have := sum_div_le n0 T l f hT h
      omega
    · simp only [hd, if_false, sumOver_zero]
      omega

/-- what a list of credits `(delegator, coins)` hands out in denom `d`, all delegators together -/
def creditSum : List (Nat × Coins) → Denom → Nat
  | [], _ => 0
  | (_, c) :: r, d => get c d + creditSum r d

theorem creditSum_append (a b : List (Nat × Coins)) (d : Denom) : creditSum (a ++ b) d = creditSum a d + creditSum b d := by
  induction a with
  | nil => simp [creditSum]
  | cons x r ih => obtain ⟨a0, c0⟩ := x; simp [creditSum, ih]; omega

theorem creditSum_creditsOfDenom (s : St) (delegs : List Nat) (sd : Denom) (total : Nat) (alloc : Coins) (d : Denom) :
    creditSum (creditsOfDenom s delegs sd total alloc) d =
      sumOver delegs (fun a => get (delegatorPart alloc (s.bal (.user a) sd) total) d) := by
  induction delegs with
  | nil => rfl
  | cons a r ih =>
    unfold creditsOfDenom at ih ⊢
    simp only [List.map, creditSum, sumOver, ih]

/-- the part of the reward in `d` set aside for one share denom: `RoundInt(reward·StakeCap)` if it counts -/
def denomPart (s : St) (rewards : Coins) (d : Denom) (sd : Denom) (total : Nat) : Nat :=
  match s.tokInfo ⟨0, sd.tok⟩ with
  | none => 0
  | some ti =>
    if ti.stakeCap = 0 then 0 else
    if total = 0 then 0 else
    match denomAllocation ti.stakeCap rewards with
    | none => 0
    | some alloc => get alloc d

/-- `Σ denomPart` over the pool's share denoms `(sd, total)`: the bound that `alloc_bounded_by_rounded_parts` proves -/
def allocSum (s : St) (rewards : Coins) (d : Denom) : Coins → Nat
  | [] => 0
  | (sd, total) :: r => denomPart s rewards d sd total + allocSum s rewards d r

theorem denomPart_eq {s : St} {rewards alloc : Coins} {sd : Denom} {total : Nat} {ti : TokInfo}
    (hti : s.tokInfo ⟨0, sd.tok⟩ = some ti) (hc : ¬ ti.stakeCap = 0) (ht : ¬ total = 0)
    (hal : denomAllocation ti.stakeCap rewards = some alloc) (d : Denom) :
    denomPart s rewards d sd total = get alloc d := by
  unfold denomPart
  simp only [hti, hc, ht, if_false, hal]

theorem denomPart_le {s : St} {rewards : Coins} {sd : Denom} {total : Nat}
    (hcap : ∀ ti, s.tokInfo ⟨0, sd.tok⟩ = some ti → ti.stakeCap ≤ Dec.one) (d : Denom) :
    denomPart s rewards d sd total ≤ get rewards d := by
  -- the part is 0 unless the token is registered, its cap is not 0, shares are outstanding and the allocation is defined
  fun_cases denomPart s rewards d sd total <;> try exact Nat.zero_le _
  next ti hti _ _ alloc hal => exact denomAllocation_le (hcap ti hti) hal d

end Sekai.MultiStake
