import Sekai.Model.Auth
/-! Lemmas about `Sekai.Model.Auth`: what the two decorators that write do to the account store (`setPubKeys`, `incSeqs`),
what `Tx.signers` contains, what a successful signer loop says about every signer (`AuthBy`, `verifySigs_ok`), and what
acceptance by the whole chain says: check by check (`anteAuth_ok`), the store afterwards (`accepted_effect`), how each
signer was authenticated (`accepted_signer`), with the corollaries C02 uses (first signer, wrong sequence, new key). -/
namespace Sekai.Auth

theorem set_same (A : Accounts) (a : Addr) (acc : Account) : (A.set a acc) a = some acc := by
  simp [Accounts.set]

theorem set_other (A : Accounts) {a b : Addr} (acc : Account) (h : b ≠ a) : (A.set a acc) b = A b := by
  simp [Accounts.set, h]

theorem setPubKeys_spec {pks : List (Option Key)} {ss : List Addr} {A B : Accounts} (h : setPubKeys A pks ss = .ok B)
    (a : Addr) :
    B a = A a ∨ ∃ (i : Nat) (k : Key), pks[i]? = some (some k) ∧ ss[i]? = some a ∧
      ∃ acc, A a = some acc ∧ acc.pk = none ∧ B a = some { acc with pk := some k } := by
  fun_induction setPubKeys A pks ss <;> try (cases h; done)
  next => cases h; exact .inl rfl                       -- no attached key left
  next A pks ss ih =>                                   -- no key attached at this position: `continue`
    rcases ih h with he | ⟨i, k, h1, h2, hr⟩
    · exact .inl he
    · exact .inr ⟨i + 1, k, h1, by simpa using h2, hr⟩
  next A k0 pks s ss accs hA k1 hpks ih =>              -- the signer has a key on record: left alone
    rcases ih h with he | ⟨i, k, h1, h2, hr⟩
    · exact .inl he
    · exact .inr ⟨i + 1, k, h1, h2, hr⟩
  next A k0 pks s ss accs hA hpks ih =>                 -- no key on record: the attached key `k0` is stored
    by_cases has : a = s
    · -- the key installed in this round stays: later rounds install on accounts without key only
      subst has
      rcases ih h with he | ⟨_, _, _, _, acc, hA1, hpk, _⟩
      · exact .inr ⟨0, k0, rfl, rfl, accs, hA, hpks, he.trans (set_same ..)⟩
      · cases (set_same ..).symm.trans hA1
        cases hpk
    · rw [← set_other A { accs with pk := some k0 } has]
      rcases ih h with he | ⟨i, k, h1, h2, hr⟩
      · exact .inl he
      · exact .inr ⟨i + 1, k, h1, h2, hr⟩

theorem setPubKeys_keeps {pks : List (Option Key)} {ss : List Addr} {A B : Accounts} (h : setPubKeys A pks ss = .ok B)
    (a : Addr) :
    (A a = none → B a = none) ∧
      ∀ acc, A a = some acc → ∃ pk, B a = some { acc with pk := pk } ∧ ∀ k, acc.pk = some k → pk = some k := by
  rcases setPubKeys_spec h a with he | ⟨_, k, _, _, acc, hA, hpk, hB⟩
  · rw [he]
    exact ⟨id, fun acc hA => ⟨acc.pk, hA, fun _ => id⟩⟩
  · refine ⟨fun hn => (by cases hn.symm.trans hA), fun acc0 hA0 => ?_⟩
    cases hA.symm.trans hA0
    exact ⟨some k, hB, fun k' hk' => by cases hpk.symm.trans hk'⟩

theorem dedupAux_spec (seen l : List Addr) :
    (dedupAux seen l).Nodup ∧ ∀ x, x ∈ dedupAux seen l ↔ x ∉ seen ∧ x ∈ l := by
  fun_induction dedupAux seen l
  next => simp
  next seen a rest ha ih =>                             -- `a` seen before: dropped
    refine ⟨ih.1, fun x => ?_⟩
    rw [ih.2, List.mem_cons]
    exact ⟨fun h => ⟨h.1, .inr h.2⟩, fun h => ⟨h.1, h.2.resolve_left fun e => h.1 (e ▸ ha)⟩⟩
  next seen a rest ha ih =>                             -- first occurrence of `a`: kept
    refine ⟨List.nodup_cons.mpr ⟨fun hm => ((ih.2 a).mp hm).1 (List.mem_cons_self ..), ih.1⟩, fun x => ?_⟩
    rw [List.mem_cons, ih.2, List.mem_cons, List.mem_cons, not_or]
    by_cases hx : x = a
    · simp [hx, ha]
    · simp [hx]

theorem signers_nodup (tx : Tx) : tx.signers.Nodup := (dedupAux_spec _ _).1

theorem payer_mem_signers {tx : Tx} {p : Addr} (h : tx.core.payer = some p) : p ∈ tx.signers :=
  ((dedupAux_spec _ _).2 p).mpr ⟨List.not_mem_nil, by simp [h]⟩

theorem signers_single_eth (tx : Tx) (s : Addr) (etx : EthTx) (ty : Nat) (h : tx.core.msgs = [.ethTx s etx ty])
    (hp : tx.core.payer = none ∨ tx.core.payer = some s) : tx.signers = [s] := by
  rcases hp with hp | hp <;> simp [Tx.signers, h, hp, Msg.signers, dedupAux]

theorem signers_head_eth {tx : Tx} {s : Addr} {etx : EthTx} {ty : Nat} (h : tx.core.msgs = [.ethTx s etx ty]) :
    tx.signers[0]? = some s := by
  simp [Tx.signers, h, Msg.signers, dedupAux]

theorem incSeqs_spec {ss : List Addr} {A B : Accounts} (h : incSeqs A ss = .ok B) (hnd : ss.Nodup) (a : Addr) :
    (A a = none → B a = none) ∧
      ∀ acc, A a = some acc → B a = some { acc with seq := if a ∈ ss then acc.seq + 1 else acc.seq } := by
  fun_induction incSeqs A ss <;> try (cases h; done)
  next => cases h; simp
  next A s ss accs hA ih =>                             -- the signer's account exists: its sequence goes up
    obtain ⟨hs, hnd'⟩ := List.nodup_cons.mp hnd
    have := ih h hnd'
    by_cases has : a = s
    · subst has
      refine ⟨fun hn => by simp [hn] at hA, fun acc hacc => ?_⟩
      cases hA.symm.trans hacc
      simpa [hs] using this.2 _ (set_same ..)
    · rw [set_other _ _ has] at this
      simpa [has] using this

/-- How signer `s` was authenticated by signer info `info` and signature `σ`; `pk`, `num`, `seq` are the key on record
(after `SetPubKeyDecorator`), the number and the sequence of the signer's account. -/
inductive AuthBy (env : Env) (tx : Tx) (s : Addr) (pk : Key) (num seq : Nat) (info : SignerInfo) (σ : Sig) : Prop where
  /-- standard path: the key on record hashes to the account address and signed exactly the sign bytes of this
  transaction (SignDoc / StdSignDoc) for this chain, account number and sequence -/
  | std : cosmosAddr pk = s → σ.key = pk → σ.enc = .cosmos64 → signBytes env info.mode tx num seq = .ok σ.payload →
      AuthBy env tx s pk num seq info σ
  /-- Ethereum fallback, EIP-712: the key whose Ethereum address is the account signed (message as
  `GenEIP712SignBytesFromMsg` sees it, sequence) -/
  | eip712 (m : Msg) :
      cosmosAddr pk ≠ s → info.mode = .direct → tx.core.msgs = [m] → m.isEthTx = false →
      tx.signers = [s] → σ.enc = .eth65 → ethAddr σ.key = s → σ.payload = .eip712 (eipView env m) seq env.ethChainId →
      AuthBy env tx s pk num seq info σ
  /-- Ethereum fallback, raw Ethereum transaction: the signer IS `msg.Sender`, the key whose Ethereum address is
  `msg.Sender` signed the embedded transaction, whose nonce is the account sequence and whose chain id is
  `EthChainID` -/
  | rawEth (k : Key) (etx : EthTx) (ty : Nat) :
      cosmosAddr pk ≠ s → info.mode = .direct → tx.core.msgs = [.ethTx s etx ty] →
      etx.signedBy = some k → ethAddr k = s → etx.nonce = seq → etx.chainId = env.ethChainId →
      AuthBy env tx s pk num seq info σ

theorem aminoView_inj {env : Env} (hinj : ∀ t t', env.aminoClass t = env.aminoClass t' → t = t') {m m' : Msg}
    (h : aminoView env m = aminoView env m') : m = m' := by
  cases m <;> cases m' <;> simp only [aminoView, Msg.plain.injEq, reduceCtorEq] at h ⊢
  · exact ⟨hinj _ _ h.1, h.2⟩
  · exact h

theorem eipView_inj {env : Env} (hinj : ∀ t t', env.eipClass t = env.eipClass t' → t = t') {m m' : Msg}
    (h : eipView env m = eipView env m') : m = m' := by
  cases m <;> cases m' <;> simp only [eipView, Msg.plain.injEq, reduceCtorEq] at h ⊢
  · exact ⟨hinj _ _ h.1, h.2⟩
  · exact h

theorem signBytes_ok {env : Env} {mode : Mode} {tx : Tx} {num seq : Nat} {p : Payload}
    (h : signBytes env mode tx num seq = .ok p) :
    mode = .direct ∧ p = .direct tx.core env.chainId num ∨
    mode = .amino ∧ p = .amino (tx.core.msgs.map (aminoView env)) tx.core.memo tx.core.timeout tx.core.fee tx.core.payer
      env.chainId num seq := by
  revert h
  fun_cases signBytes env mode tx num seq <;> try (intro h; cases h; done)
  next => intro h; exact .inl ⟨rfl, by cases h; rfl⟩             -- DIRECT: the SignDoc
  next => intro h; exact .inr ⟨rfl, by cases h; rfl⟩             -- LEGACY_AMINO_JSON, no `MsgEthereumTx`: the StdSignDoc

theorem recoverAndCompare_ok {σ : Sig} {p : Payload} {ss : List Addr} (h : recoverAndCompare σ p ss = .ok ()) :
    σ.enc = .eth65 ∧ p.isDigest32 = true ∧ σ.payload = p ∧ ss = [ethAddr σ.key] := by
  revert h
  fun_cases recoverAndCompare σ p ss <;> try (intro h; cases h; done)
  next k hr =>                                          -- key `k` recovered, one signer, and it is `ethAddr k`
    intro h
    unfold recover at hr
    split at hr
    · rename_i hc; cases hr; exact ⟨hc.1, hc.2.1, hc.2.2, rfl⟩          -- 65 bytes over a 32-byte digest, the bytes signed
    · cases hr                                                           -- recovery yields nothing

theorem verifyStd_ok {env : Env} {pk : Key} {acc : Account} {info : SignerInfo} {σ : Sig} {tx : Tx} {s : Addr}
    (h : verifyStd env pk acc info σ tx = .ok ()) (hpk : cosmosAddr pk = s) :
    AuthBy env tx s pk acc.num acc.seq info σ := by
  revert h
  fun_cases verifyStd env pk acc info σ tx <;> try (intro h; cases h; done)
  next p hsb hc => intro h; exact .std hpk hc.2.1 hc.1 (hc.2.2 ▸ hsb)            -- sign bytes `p`, signature by `pk` over `p`

theorem verifyEth_ok {env : Env} {s : Addr} {acc : Account} {info : SignerInfo} {σ : Sig} {tx : Tx} {pk : Key}
    (h : verifyEth env s acc info σ tx = .ok ()) (hs : s ∈ tx.signers) (hpk : cosmosAddr pk ≠ s) :
    AuthBy env tx s pk acc.num acc.seq info σ := by
  revert h
  fun_cases verifyEth env s acc info σ tx <;> try (intro h; cases h; done)
  next p hsb hmode sender etx ty hn hc k hk hss hks hm hvb =>
    intro h
    -- DIRECT, one `MsgEthereumTx`: nonce, chain id, recovered sender, `msg.Sender` and `ValidateBasic` all passed
    cases Decidable.not_not.mp hss
    exact .rawEth k etx ty hpk hmode hm hk (Decidable.not_not.mp hks) (Decidable.not_not.mp hn).symm
      (Decidable.not_not.mp hc).symm
  next hvb => intro h; rw [if_neg hvb] at h; cases h             -- the same, `ValidateBasic` failed
  next p hsb hmode t c sg hm =>
    intro h
    -- DIRECT, one other message: recovery over the EIP-712 digest
    obtain ⟨he, _, hp, hsg⟩ := recoverAndCompare_ok h
    -- exactly one signer, and the signer being verified is one
    have hka : ethAddr σ.key = s := (List.mem_singleton.mp (hsg ▸ hs)).symm
    exact .eip712 _ hpk hmode hm rfl (hka ▸ hsg) he hka hp
  next p hsb hmode =>
    intro h
    -- not DIRECT: recovery over the sign bytes, a whole document, which `SigToPub` does not take
    obtain ⟨_, hd, _, _⟩ := recoverAndCompare_ok h
    rcases signBytes_ok hsb with ⟨hm, _⟩ | ⟨_, rfl⟩
    · exact (hmode hm).elim
    · cases hd

theorem verifySigs_ok {env : Env} {A : Accounts} {tx : Tx} {sv : List (SignerInfo × Sig)} {ss : List Addr}
    (h : verifySigs env A tx sv ss = .ok ()) (hsub : ∀ s ∈ ss, s ∈ tx.signers) :
    ∀ info σ s, ((info, σ), s) ∈ sv.zip ss → ∃ acc pk, A s = some acc ∧ acc.pk = some pk ∧ info.seq = acc.seq ∧
      AuthBy env tx s pk acc.num acc.seq info σ := by
  suffices ∀ x ∈ sv.zip ss, ∃ acc pk, A x.2 = some acc ∧ acc.pk = some pk ∧ x.1.1.seq = acc.seq ∧
      AuthBy env tx x.2 pk acc.num acc.seq x.1.1 x.1.2 from fun _ _ _ hx => this _ hx
  fun_induction verifySigs env A tx sv ss <;> try (cases h; done)
  next => intro x hx; cases hx                          -- no pair left
  next info σ rest s ss acc hA pk hpk hseq haddr hv ih =>
    -- the key on record does not hash to `s`, the Ethereum fallback succeeded: `continue`
    obtain ⟨hs, hss⟩ := List.forall_mem_cons.mp hsub
    rw [List.zip_cons_cons, List.forall_mem_cons]
    exact ⟨⟨acc, pk, hA, hpk, Decidable.not_not.mp hseq, verifyEth_ok hv hs haddr⟩, ih h hss⟩
  next info σ rest s ss acc hA pk hpk hseq haddr hv ih =>
    -- the key on record hashes to `s`, the standard verification succeeded
    rw [List.zip_cons_cons, List.forall_mem_cons]
    exact ⟨⟨acc, pk, hA, hpk, Decidable.not_not.mp hseq, verifyStd_ok hv (Decidable.not_not.mp haddr)⟩,
      ih h (List.forall_mem_cons.mp hsub).2⟩

theorem verifySigs_first (env : Env) (A : Accounts) (tx : Tx) (info : SignerInfo) (σ : Sig)
    (rest : List (SignerInfo × Sig)) (s : Addr) (ss : List Addr) (acc : Account)
    (hA : A s = some acc) (hne : info.seq ≠ acc.seq) :
    ∃ e, verifySigs env A tx ((info, σ) :: rest) (s :: ss) = .error e := by
  simp only [verifySigs, hA]
  cases acc.pk with
  | none => exact ⟨_, rfl⟩
  | some pk => simp [hne]

/-- What acceptance by `anteAuth` says, check by check in the order of the chain. `A1` is the store after
`SetPubKeyDecorator`, the one the signer loop reads. Every guard of `anteAuth` is a field; `sigGas` and the three loops are
kept as calls (the loops have their own lemmas, `sigGas` has none). -/
structure Accepted (env : Env) (A : Accounts) (tx : Tx) (A1 A' : Accounts) : Prop where
  msgs : tx.core.msgs ≠ []
  msgsValid : tx.core.msgs.all Msg.validateBasic = true
  sigs : tx.sigs ≠ []
  sigsLen : tx.sigs.length = tx.signers.length
  keysSet : setPubKeys A (tx.core.infos.map (·.pk)) tx.signers = .ok A1
  infosLen : tx.core.infos.length ≤ tx.sigs.length
  sigLimit : tx.core.infos.length ≤ env.sigLimit
  keysOnRecord : sigGas A1 tx.core.infos tx.signers = .ok ()
  pairsLen : (tx.core.infos.zip tx.sigs).length = tx.signers.length
  verified : verifySigs env A1 tx (tx.core.infos.zip tx.sigs) tx.signers = .ok ()
  seqsBumped : incSeqs A1 tx.signers = .ok A'

theorem anteAuth_ok {env : Env} {A A' : Accounts} {tx : Tx} (h : anteAuth env A tx = .ok A') :
    ∃ A1, Accepted env A tx A1 A' := by
  revert h
  fun_cases anteAuth env A tx <;> try (intro h; cases h; done)
  next hmsgs hvalid hsigs hlen A1 hset hinfos hlimit hgas _ hpairs hver =>      -- every check passed
    intro h
    exact ⟨A1, {
      msgs := hmsgs
      msgsValid := by simpa using hvalid
      sigs := hsigs
      sigsLen := Decidable.not_not.mp hlen
      keysSet := hset
      infosLen := Nat.not_lt.mp hinfos
      sigLimit := Nat.not_lt.mp hlimit
      keysOnRecord := hgas
      pairsLen := Decidable.not_not.mp hpairs
      verified := hver
      seqsBumped := h }⟩

theorem accepted_effect {env : Env} {A A' : Accounts} {tx : Tx} (h : anteAuth env A tx = .ok A') (a : Addr) :
    (A a = none → A' a = none) ∧
      ∀ acc, A a = some acc → ∃ pk, (∀ k, acc.pk = some k → pk = some k) ∧
        A' a = some { acc with pk := pk, seq := if a ∈ tx.signers then acc.seq + 1 else acc.seq } := by
  obtain ⟨A1, hok⟩ := anteAuth_ok h
  have hkeys := setPubKeys_keeps hok.keysSet a
  have hseqs := incSeqs_spec hok.seqsBumped (signers_nodup tx) a
  refine ⟨fun hn => hseqs.1 (hkeys.1 hn), fun acc hA => ?_⟩
  obtain ⟨pk, h1, hk⟩ := hkeys.2 acc hA
  exact ⟨pk, hk, hseqs.2 _ h1⟩

/-- How the signer `s` of an accepted transaction was authenticated. `i` is its common position in `signers` / `infos` /
`sigs`, `acc` its account BEFORE the transaction, `pk` the key on record after `SetPubKeyDecorator` (attached by this
transaction or there before), `A'` the store after the transaction. Only what `verifySigs` checks for this signer; the other
guards of `anteAuth` are in `Accepted`. -/
structure SignerAccepted (env : Env) (A A' : Accounts) (tx : Tx) (i : Nat) (s : Addr) (acc : Account) (info : SignerInfo)
    (σ : Sig) (pk : Key) : Prop where
  account : A s = some acc
  infoAt : tx.core.infos[i]? = some info
  sigAt : tx.sigs[i]? = some σ
  seqMatches : info.seq = acc.seq
  after : A' s = some { acc with pk := some pk, seq := acc.seq + 1 }
  auth : AuthBy env tx s pk acc.num acc.seq info σ

/-- The authenticity results of C02 are read off this theorem or its corollary `C02.accepted_signer_signed`. -/
theorem accepted_signer {env : Env} {A A' : Accounts} {tx : Tx} (h : anteAuth env A tx = .ok A') {i : Nat} {s : Addr}
    (hs : tx.signers[i]? = some s) : ∃ acc info σ pk, SignerAccepted env A A' tx i s acc info σ pk := by
  obtain ⟨A1, hok⟩ := anteAuth_ok h
  have hi : i < tx.signers.length := (List.getElem?_eq_some_iff.mp hs).1
  obtain ⟨z, hz⟩ : ∃ z, (tx.core.infos.zip tx.sigs)[i]? = some z :=
    ⟨_, List.getElem?_eq_getElem (hok.pairsLen ▸ hi)⟩
  obtain ⟨hinfo, hsig⟩ := List.getElem?_zip_eq_some.mp hz
  obtain ⟨acc1, pk, hA1, hpk, hseq, hauth⟩ := verifySigs_ok hok.verified (fun _ h => h) z.1 z.2 s
    (List.mem_of_getElem? (List.getElem?_zip_eq_some.mpr ⟨hz, hs⟩))
  -- back through `SetPubKeyDecorator`, forward through `IncrementSequenceDecorator`
  have hkeys := setPubKeys_keeps hok.keysSet s
  cases hA : A s with
  | none => cases (hkeys.1 hA).symm.trans hA1
  | some acc =>
    obtain ⟨pk1, h1, _⟩ := hkeys.2 acc hA
    cases h1.symm.trans hA1
    cases (show pk1 = some pk from hpk)
    refine ⟨acc, z.1, z.2, pk, { account := hA, infoAt := hinfo, sigAt := hsig, seqMatches := hseq, after := ?_, auth := hauth }⟩
    rw [(incSeqs_spec hok.seqsBumped (signers_nodup tx) s).2 _ hA1, if_pos (List.mem_of_getElem? hs)]

theorem accepted_first_signer {env : Env} {A A' : Accounts} {tx : Tx} (h : anteAuth env A tx = .ok A') :
    ∃ s, tx.signers[0]? = some s := by
  obtain ⟨A1, hok⟩ := anteAuth_ok h
  have := List.length_pos_iff.mpr hok.sigs
  exact ⟨_, List.getElem?_eq_getElem (hok.sigsLen ▸ this)⟩

theorem wrong_seq_rejected {env : Env} {A : Accounts} {tx : Tx} {i : Nat} {s : Addr} {info : SignerInfo} {acc : Account}
    (hs : tx.signers[i]? = some s) (hi : tx.core.infos[i]? = some info) (hA : A s = some acc) (hne : info.seq ≠ acc.seq) :
    ∃ e, anteAuth env A tx = .error e := by
  cases hres : anteAuth env A tx with
  | error e => exact ⟨e, rfl⟩
  | ok A' =>
    obtain ⟨acc0, info0, _, _, hsigner⟩ := accepted_signer hres hs
    cases hA.symm.trans hsigner.account
    cases hi.symm.trans hsigner.infoAt
    exact absurd hsigner.seqMatches hne

theorem new_key_attached {env : Env} {A A' : Accounts} {tx : Tx} (h : anteAuth env A tx = .ok A')
    {a : Addr} {acc acc' : Account} {k : Key}
    (hA : A a = some acc) (hnone : acc.pk = none) (hA' : A' a = some acc') (hk : acc'.pk = some k) :
    ∃ i : Nat, tx.signers[i]? = some a ∧ (tx.core.infos[i]?).map (·.pk) = some (some k) := by
  obtain ⟨A1, hok⟩ := anteAuth_ok h
  have hinc' := (incSeqs_spec hok.seqsBumped (signers_nodup tx) a).2
  rcases setPubKeys_spec hok.keysSet a with he | ⟨i, k0, hpki, hs, acc0, hA0, _, hA1⟩
  · cases hA'.symm.trans (hinc' _ (he.trans hA))
    cases hnone.symm.trans hk
  · cases hA.symm.trans hA0
    cases hA'.symm.trans (hinc' _ hA1)
    cases hk
    exact ⟨i, hs, by simpa [List.getElem?_map] using hpki⟩

end Sekai.Auth
