import Sekai.Model.Custody
/-! The custody message server (`execMsg`, `execAll`): the get-after-set equations of its stores; which fields a message may
write (`execMsg_frame`, by `Msg.keyArgs`: a settings message or not), with `policy`, the settings of one account as the
property speaks of them; the result state of each transfer handler, closed up to the balances it pays (`approve_ok` with every guard; `send_ok`,
`confirm_ok`, `decline_ok`, `plainSend_ok` give the possible result states and keep neither the guards nor `sendCoins … = some b`);
the induction rule of `execAll`. -/
namespace Sekai.Custody

section alist
variable {κ : Type} {β : Type} [DecidableEq κ]

theorem aget_aset (l : List (κ × β)) (k k' : κ) (v : β) :
    aget (aset l k v) k' = if k = k' then some v else aget l k' := by
  induction l with
  | nil => rfl
  | cons x t ih =>
    obtain ⟨a, b⟩ := x
    by_cases h : a = k
    · subst h; by_cases h2 : a = k' <;> simp only [aset, aget, ↓reduceIte, h2]
    · by_cases h2 : a = k'
      · subst h2; simp only [aset, aget, ↓reduceIte, h, Ne.symm h]
      · simp only [aset, aget, ↓reduceIte, h, h2, ih]

theorem aget_adel (l : List (κ × β)) (k k' : κ) :
    aget (adel l k) k' = if k = k' then none else aget l k' := by
  induction l with
  | nil => simp only [adel, aget, ite_self]
  | cons x t ih =>
    obtain ⟨a, b⟩ := x
    by_cases h : a = k
    · subst h
      rw [adel, if_pos rfl, ih]
      by_cases h2 : a = k' <;> simp only [aget, ↓reduceIte, h2]
    · by_cases h2 : a = k'
      · subst h2; simp only [adel, aget, ↓reduceIte, h, Ne.symm h]
      · simp only [adel, aget, ↓reduceIte, h, h2, ih]

theorem aget_eq_none_iff (l : List (κ × β)) (k : κ) : aget l k = none ↔ k ∉ l.map (·.1) := by
  induction l with
  | nil => simp [aget]
  | cons x t ih =>
    by_cases h : x.1 = k
    · simp [aget, h]
    · simp [aget, h, ih, Ne.symm h]

theorem aget_none_of_not_mem (l : List (κ × β)) (k : κ) (h : k ∉ l.map (·.1)) : aget l k = none :=
  (aget_eq_none_iff l k).2 h

theorem mem_keys_of_aget (l : List (κ × β)) (k : κ) (v : β) (h : aget l k = some v) : k ∈ l.map (·.1) :=
  Classical.byContradiction fun hn => by rw [aget_none_of_not_mem l k hn] at h; cases h
end alist

theorem upd_same {β : Type} (f : Addr → β) (a : Addr) (v : β) : upd f a v a = v := by simp [upd]
theorem upd_other {β : Type} (f : Addr → β) (a b : Addr) (v : β) (h : b ≠ a) : upd f a v b = f b := by simp [upd, h]

def Msg.keyArgs : Msg → Option KeyArgs
  | .create _ _ k | .disable _ k | .drop _ k | .addCust _ _ k | .rmCust _ _ k | .dropCust _ k
  | .addWl _ _ k | .rmWl _ _ k | .dropWl _ k | .addLim _ _ _ _ k | .rmLim _ _ k | .dropLim _ k => some k
  | _ => none

/-- where the decorator checks key arguments (`Msg.keyArgsChecked`, seven kinds) they are the message's key arguments -/
theorem keyArgsChecked_of_isSome {m : Msg} {k : KeyArgs} (hk : m.keyArgs = some k) (hc : m.keyArgsChecked.isSome = true) :
    m.keyArgsChecked = some k := by
  cases m <;> first | exact hk | cases hc

/-- everything the property calls "custody settings, custodians, whitelist and limits" of one account -/
structure Policy where
  settings : Option Settings
  custodians : Option (List (Addr × Bool))
  whitelist : Option (List (Addr × Bool))
  limits : Option (List (Denom × Limit))
deriving DecidableEq, Repr

def policy (s : State) (a : Addr) : Policy := ⟨s.settings a, s.custodians a, s.whitelist a, s.limits a⟩

theorem setKey_ok {s s1 : State} {a : Addr} {k : KeyArgs} (h : setKey s a k = .ok s1) : ∃ se, s1 = { s with settings := se } := by
  revert h
  fun_cases setKey s a k <;> try (intro h; cases h; done)
  next => intro h; cases h; exact ⟨_, rfl⟩             -- the record exists: its key and controller are replaced

theorem execMsg_frame {s s1 : State} {m : Msg} (h : execMsg s m = .ok s1) :
    match m.keyArgs with
    | some _ => ∃ se cu wl li, s1 = { s with settings := se, custodians := cu, whitelist := wl, limits := li }
    | none => ∃ p v b, s1 = { s with pool := p, votes := v, bal := b } := by
  revert h
  -- every branch takes `cases h`: it closes a failing one and puts the result state into a succeeding one
  fun_cases execMsg s m <;> intro h <;> cases h <;> dsimp only [Msg.keyArgs]
  all_goals first
    | (obtain ⟨_, rfl⟩ := setKey_ok ‹_›; exact ⟨_, _, _, _, rfl⟩)    -- a settings handler that writes after `setKey`
    | exact ⟨_, _, _, _, rfl⟩                                          -- a settings handler that writes at once
    | exact ⟨_, _, _, rfl⟩                                             -- a transfer handler

theorem execMsg_status {s s1 : State} {m : Msg} (hex : execMsg s m = .ok s1) : s1.status = s.status := by
  have := execMsg_frame hex
  split at this
  · obtain ⟨_, _, _, _, rfl⟩ := this; rfl
  · obtain ⟨_, _, _, rfl⟩ := this; rfl

theorem vote_repeated {s : State} {v t : Addr} {h : HashStr} {x : Int} (hv : aget s.votes ⟨v, t, h⟩ = some x) :
    execMsg s (.approve v t h) = .ok s ∧ execMsg s (.decline v t h) = .ok s := by
  simp [execMsg, hv]

/-- a first approval that succeeded: what it found, the voter's share `rw` it paid (leaving the balances `b1`), and the
result state: the balances `b'` and the pool `p'` depend on whether the transfer was released -/
structure ApproveOk (s s' : State) (v t : Addr) (h : HashStr) (l : List (Nat × TxRec)) (r : TxRec) (cs : List (Addr × Bool))
    (rw : Coins) (b1 b' : Bal) (p' : Addr → Option (List (Nat × TxRec))) : Prop where
  pool : s.pool t = some l
  entry : aget l h.id = some r                                       -- found under the LOWER-CASED hash
  custodians : s.custodians t = some cs
  share : rewardShare r.reward cs.length = some rw
  paid : sendCoins s.bal t v rw = some b1                            -- `sendReward`
  state : s' = { s with bal := b', votes := (⟨v, t, h⟩, 1) :: s.votes, pool := p' }
  release : if (allowCustodians (s.settings t) cs.length (r.votes + 1) && allowPassword (s.settings t) r.confirmed) = true
    then ∃ b2, sendCoins b1 r.frm r.to r.amount = some b2 ∧ b' = b2 ∧ p' = upd s.pool t (some (adel l h.id))
    else b' = b1 ∧ p' = upd s.pool t (some (aset l h.id { r with votes := r.votes + 1 }))

theorem approve_ok {s s' : State} {v t : Addr} {h : HashStr} (hfresh : aget s.votes ⟨v, t, h⟩ = none)
    (hex : execMsg s (.approve v t h) = .ok s') : ∃ l r cs rw b1 b' p', ApproveOk s s' v t h l r cs rw b1 b' p' := by
  simp only [execMsg, hfresh] at hex
  split at hex
  · cases hex                             -- the target has no pool of pending transfers
  rename_i l hp
  split at hex
  · cases hex                             -- no transfer under this hash
  rename_i r hr
  split at hex
  · cases hex                             -- no custodian record
  rename_i cs hc
  split at hex
  · cases hex                             -- no reward, or no custodians to share it
  rename_i rw hrw
  split at hex
  · cases hex                             -- the target cannot pay the voter's share
  rename_i b1 hb1
  split at hex
  · rename_i hok                          -- `ok`: the transfer is paid and its entry deleted
    split at hex
    · cases hex                           -- the sender cannot pay the transfer
    rename_i b2 hb2
    cases hex
    exact ⟨l, r, cs, rw, b1, b2, _, {
      pool := hp, entry := hr, custodians := hc, share := hrw, paid := hb1, state := rfl,
      release := by rw [if_pos hok]; exact ⟨b2, hb2, rfl, rfl⟩ }⟩
  · rename_i hok                          -- not `ok`: the entry is stored with one vote more
    cases hex
    exact ⟨l, r, cs, rw, b1, b1, _, {
      pool := hp, entry := hr, custodians := hc, share := hrw, paid := hb1, state := rfl,
      release := by rw [if_neg hok]; exact ⟨rfl, rfl⟩ }⟩

theorem decline_ok {s s' : State} {v t : Addr} {h : HashStr} (hex : execMsg s (.decline v t h) = .ok s') :
    s' = s ∨ aget s.votes ⟨v, t, h⟩ = none ∧ ∃ b, s' = { s with bal := b, votes := (⟨v, t, h⟩, -1) :: s.votes } := by
  simp only [execMsg] at hex
  split at hex
  · cases hex; exact .inl rfl             -- already voted under this exact key
  rename_i hv
  split at hex
  · cases hex; exact .inl rfl             -- the target has no custody record
  split at hex
  · cases hex; exact .inl rfl             -- custody disabled
  split at hex
  · cases hex                             -- no custodian record: panic
  split at hex
  · cases hex; exact .inl rfl             -- no custodians
  split at hex
  · cases hex; exact .inl rfl             -- no pool of pending transfers
  split at hex
  · cases hex; exact .inl rfl             -- no transfer under this hash
  split at hex
  · cases hex                             -- no reward to share: panic
  split at hex
  · cases hex                             -- the target cannot pay the voter's share
  cases hex                               -- declined: the voter's share of the reward is paid, "-1" is stored
  exact .inr ⟨hv, _, rfl⟩

theorem confirm_ok {s s' : State} {w a : Addr} {h : HashStr} {pw : Nat} (hex : execMsg s (.confirm w a h pw) = .ok s') :
    ∃ l r, s.pool a = some l ∧ aget l h.id = some r ∧
      ((∃ b, s' = { s with bal := b, pool := upd s.pool a (some (adel l h.id)) }) ∨
       s' = { s with pool := upd s.pool a (some (aset l h.id { r with confirmed := true })) }) := by
  simp only [execMsg] at hex
  split at hex
  · cases hex                             -- the sender has no pool of pending transfers
  rename_i l hp
  split at hex
  · cases hex                             -- no transfer under this hash
  rename_i r hr
  refine ⟨l, r, hp, hr, ?_⟩
  split at hex
  · cases hex                             -- custody enabled and no custodian record: panic
  split at hex
  · split at hex                          -- `ok`: the transfer is paid and its entry deleted
    · cases hex                           -- the sender cannot pay the transfer
    cases hex
    exact .inl ⟨_, rfl⟩
  · cases hex                             -- not `ok`: the entry is marked confirmed
    exact .inr rfl

theorem send_ok {s s' : State} {a to : Addr} {amt rw : Coins} {pw hid : Nat}
    (hex : execMsg s (.send a to amt pw rw hid) = .ok s') :
    s' = { s with pool := upd s.pool a (some [(hid, { frm := a, to := to, amount := amt, password := pw, reward := rw })]) } ∨
    ∃ b, s' = { s with bal := b } := by
  simp only [execMsg] at hex
  split at hex
  · cases hex                             -- custody enabled and no custodian record: panic
  · cases hex                             -- custodians or a password required: the transfer waits in the pool
    exact .inl rfl
  · split at hex                          -- neither: paid at once
    · cases hex                           -- the sender cannot pay
    cases hex
    exact .inr ⟨_, rfl⟩

theorem plainSend_ok {s s' : State} {m : Msg} {a to : Addr} {amt : Coins} (hm : m = .bankSend a to amt ∨ m = .multiSend a to amt)
    (hex : execMsg s m = .ok s') : ∃ b, s' = { s with bal := b } := by
  rcases hm with rfl | rfl <;> simp only [execMsg] at hex <;> split at hex
  all_goals cases hex                     -- `sendCoins` fails: insufficient funds
  all_goals exact ⟨_, rfl⟩

theorem execAll_induct {P : State → Prop} {msgs : List Msg}
    (step : ∀ m ∈ msgs, ∀ s s1, P s → execMsg s m = .ok s1 → P s1) {s s' : State} (h0 : P s)
    (h : execAll s msgs = .ok s') : P s' := by
  induction msgs generalizing s with
  | nil => simp only [execAll] at h; cases h; exact h0
  | cons m t ih =>
    simp only [execAll] at h
    split at h
    · cases h                             -- the handler of `m` fails
    · rename_i s1 h1                      -- `m` is handled and leaves `s1`; the rest runs there
      exact ih (fun m' hm' => step m' (List.mem_cons_of_mem _ hm')) (step m List.mem_cons_self s s1 h0 h1) h

end Sekai.Custody
