import SekaiProofs.Lemmas.Recovery
/-! The validator store through a rotation (C06): the consensus-address index stays consistent (`ConsIdx`) and, when the new
address is not itself a validator, sound (`IdxSound`) under `moveVal`, which writes in the order of the Go code, and no record but that of the old address, no index
entry at all, disappears (`moveVal_isSome`); `step_valStore`: no other operation touches the store. -/
namespace Sekai.Recovery

def ConsIdx (S : State) : Prop := ∀ a v, S.vals a = some v → S.byCons v.cons = some a

def IdxSound (S : State) : Prop := ∀ c a, S.byCons c = some a → ∃ v, S.vals a = some v ∧ v.cons = c

theorem consIdx_moveVal {S : State} (old new : Addr) (h : ConsIdx S) : ConsIdx (moveVal old new S) := by
  intro a u hu
  rw [moveVal_eq] at hu ⊢
  rcases carry_some hu with ⟨ha, ho⟩ | ⟨hne, hv⟩
  · simp only [ho, if_true]
    rw [ha]
  · cases ho : S.vals old with
    | none => exact h a u hv
    | some v =>
      -- two records with one consensus key would share an index entry
      have hne' : u.cons ≠ v.cons := fun e => hne (Option.some.inj ((h a u hv).symm.trans (e ▸ h old v ho)))
      exact (if_neg hne').trans (h a u hv)

theorem idxSound_moveVal {S : State} (old new : Addr) (h : IdxSound S) (hfree : S.vals new = none ∨ new = old) :
    IdxSound (moveVal old new S) := by
  intro c a hca
  simp only [moveVal_eq] at hca ⊢
  cases ho : S.vals old with
  | none => rw [ho] at hca; rw [carry_of_none ho]; exact h c a hca
  | some v =>
    rw [ho] at hca
    dsimp only at hca
    by_cases h1 : c = v.cons
    · rw [if_pos h1] at hca; cases hca
      exact ⟨v, carry_new ho, h1.symm⟩
    · rw [if_neg h1] at hca
      obtain ⟨u, hu, huc⟩ := h c a hca
      have ha2 : a ≠ old := fun e => by rw [e, ho] at hu; cases hu; exact h1 huc.symm
      have ha1 : a ≠ new := fun e => hfree.elim (fun hn => by rw [e, hn] at hu; cases hu) (fun hs => ha2 (e.trans hs))
      exact ⟨u, (carry_other _ ha2 ha1).trans hu, huc⟩

theorem moveVal_isSome (old new : Addr) (S : State) :
    (∀ a, a ≠ old → (S.vals a).isSome → ((moveVal old new S).vals a).isSome) ∧
    (∀ c, (S.byCons c).isSome → ((moveVal old new S).byCons c).isSome) := by
  simp only [moveVal_eq]
  cases hv : S.vals old with
  | none => exact ⟨fun a _ h => by rw [carry_of_none hv]; exact h, fun c h => h⟩
  | some v =>
    constructor
    · intro a ha h
      by_cases h1 : a = new
      · rw [h1, carry_new hv]; rfl
      · rw [carry_other _ ha h1]; exact h
    · intro c h
      dsimp only
      split
      · rfl
      · exact h

theorem ConsIdx.congr {S T : State} (h : ConsIdx T) (e1 : S.vals = T.vals) (e2 : S.byCons = T.byCons) : ConsIdx S := by
  intro a v hv
  rw [e1] at hv
  rw [e2]
  exact h a v hv

theorem step_valStore (S : State) (op : Op) :
    ((step S op).vals = S.vals ∧ (step S op).byCons = S.byCons) ∨
    ∃ old new, (step S op).vals = (moveVal old new S).vals ∧ (step S op).byCons = (moveVal old new S).byCons := by
  refine step_cases (P := fun T => (T.vals = S.vals ∧ T.byCons = S.byCons) ∨
    ∃ old new, T.vals = (moveVal old new S).vals ∧ T.byCons = (moveVal old new S).byCons) (.inl ⟨rfl, rfl⟩) fun S' hap => ?_
  cases op with
  | rotateSecret m => exact .inr ⟨_, _, (Rotates.of_secret hap).effect.vals, (Rotates.of_secret hap).effect.byCons⟩
  | rotateHolder m => exact .inr ⟨_, _, (Rotates.of_holder hap).effect.vals, (Rotates.of_holder hap).effect.byCons⟩
  | _ =>
    -- the remaining operations write neither `vals` nor `byCons` (`apply_writes`)
    have e : S' = _ := apply_writes hap
    rw [e]
    exact .inl ⟨rfl, rfl⟩

end Sekai.Recovery
