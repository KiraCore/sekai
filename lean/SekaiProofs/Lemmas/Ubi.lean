import Sekai.Model.Ubi
/-! What the period gate, the one-record abstraction, `processRec` (a successful call inverted) and the end-block loop of the
UBI model do. -/
namespace Sekai.Ubi
open Sekai.Spend

theorem due_nowrap {r : Rec} {now : Nat} (hw : r.last + r.period < U64) (h : due r now = true) :
    r.last + r.period < now ∧ (r.stop = 0 ∨ r.last < r.stop) := by
  unfold due addU64 at h
  rw [Nat.mod_eq_of_lt hw] at h
  simpa using h

theorem not_due_of_stopped {r : Rec} (now : Nat) (hs : r.stop ≠ 0) (hl : r.stop ≤ r.last) : due r now = false := by
  have : ¬ r.last < r.stop := by omega
  simp [due, hs, this]

theorem stepRec_eq (r : Rec) (e : Env) :
    stepRec r e = if due r e.now = true ∧ e.infl = true ∧ e.procOk = true then ({ r with last := e.now }, e.pays) else (r, false) := by
  unfold stepRec
  cases due r e.now <;> cases e.infl <;> cases e.procOk <;> rfl

theorem payTimes_cons (r : Rec) (e : Env) (rest : List Env) :
    payTimes r (e :: rest) =
      if due r e.now = true ∧ e.infl = true ∧ e.procOk = true then
        if e.pays = true then e.now :: payTimes { r with last := e.now } rest else payTimes { r with last := e.now } rest
      else payTimes r rest := by
  simp only [payTimes, stepRec_eq]
  split <;> rfl

theorem processRec_ok {s s' : State} {r : Rec} {now : Nat} {infl : Bool} {paid : Nat}
    (h : processRec s r now infl = .ok (s', paid)) :
    (infl = false ∧ s' = s ∧ paid = 0) ∨
    (infl = true ∧
      ((s' = { s with recs := setRec s.recs { r with last := now } } ∧ paid = 0) ∨
       ((paid : Int) ≤ toI64 r.amount * 1000000 ∧ ∃ sp',
          Spend.deposit { s.sp with bank := s.sp.bank.credit MINT (Amt.ofList [(s.ukex, paid)]) } MINT r.pool [(s.ukex, paid)] = .ok sp' ∧
          s' = { s with recs := setRec s.recs { r with last := now }, sp := sp' }))) := by
  unfold processRec at h
  split at h
  · -- inflation not possible: nothing happens
    rename_i hi; cases h; exact .inl ⟨by simpa using hi, rfl, rfl⟩
  rename_i hi
  refine .inr ⟨by simpa using hi, ?_⟩
  extract_lets s1 amount _ step2 at h
  -- `step2 x`: mint `x` to the `mint` module and deposit it from there
  have hmint : ∀ x : Int, x ≤ amount → step2 x = .ok (s', paid) →
      (paid : Int) ≤ toI64 r.amount * 1000000 ∧ ∃ sp',
        Spend.deposit { s.sp with bank := s.sp.bank.credit MINT (Amt.ofList [(s.ukex, paid)]) } MINT r.pool [(s.ukex, paid)] = .ok sp' ∧
        s' = { s with recs := setRec s.recs { r with last := now }, sp := sp' } := by
    intro x hx h2
    simp only [step2] at h2
    split at h2
    · cases h2                                        -- negative amount: `sdk.NewCoin` panics
    split at h2
    · cases h2                                        -- the deposit failed
    · rename_i sp' hd
      cases h2
      exact ⟨by omega, sp', hd, rfl⟩
  split at h
  · split at h
    · cases h                                         -- dynamic, no such pool
    · extract_lets bal at h
      split at h
      · -- dynamic, the pool holds the amount already: stamped, nothing paid
        simp only [Except.ok.injEq, Prod.mk.injEq] at h
        exact .inl ⟨h.1.symm, h.2.symm⟩
      · -- dynamic: the pool is topped up to the amount
        exact .inr (hmint _ (by omega) h)
  · exact .inr (hmint _ (Int.le_refl _) h)

theorem processRec_no_inflation (s : State) (r : Rec) (now : Nat) : processRec s r now false = .ok (s, 0) := by
  simp [processRec]

/-- the FIRST payout `x` of a block was made with the gate open at what had been minted so far, and the remaining payouts
`l` are a run of the loop from `minted + x.2` -/
theorem endLoop_first_payout {now : Nat} {room : Option Nat} {recs : List Rec} {minted : Nat} {s s' : State} {x : Nat × Nat}
    {l : List (Nat × Nat)} (h : endLoop now room minted recs s = some (s', x :: l)) :
    gateOpen room minted = true ∧ ∃ rest s1, endLoop now room (minted + x.2) rest s1 = some (s', l) := by
  fun_induction endLoop now room minted recs s with
  | case1 => cases h                               -- no record left
  | case2 => cases h                               -- the record panics
  | case3 _ _ _ _ _ _ ih => exact ih h             -- the record fails: skipped
  | case4 => cases h                               -- the rest of the loop panics
  | case5 minted r rest s _ s1 paid hp s2 l2 hr ih =>   -- the record was processed (`paid`, possibly 0), so was the rest
    simp only [Option.some.injEq, Prod.mk.injEq] at h
    obtain ⟨rfl, hl⟩ := h
    by_cases hz : paid = 0
    · -- nothing paid for this record: the first payout comes from the rest of the loop
      subst hz; rw [if_pos rfl] at hl; subst hl
      exact ih hr
    · rw [if_neg hz] at hl; cases hl
      refine ⟨?_, rest, s1, hr⟩
      cases hg : gateOpen room minted with
      | true => rfl
      | false => rw [hg, processRec_no_inflation] at hp; cases hp; exact absurd rfl hz
  | case6 _ _ _ _ _ ih => exact ih h               -- the record is not due

end Sekai.Ubi
