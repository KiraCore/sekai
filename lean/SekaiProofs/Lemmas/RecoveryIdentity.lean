import Sekai.Model.Recovery
import SekaiProofs.Lemmas.Lookup
/-! Identity records through a rotation (C16): `moveIdentity_spec`, the records after `moveIdentity` by `getRec` (the address index
is not described). The recovery model keeps its own copy of the identity registry (`Reg`, `setRecord`, `moveRecords` …, mirroring
`Sekai.Ident`); the same facts about the registrar's model are in `Lemmas/Ident.lean`, `IdentOps.lean` and `IdentVerif.lean`
(`rotate_getRec`): a change to `SetIdentityRecord` touches both. -/
namespace Sekai.Recovery
open Sekai.Ident (lower)

/-- the twin of `Ident.getRec_delete`. This model writes its tests as `decide (x.id ≠ i)` / `decide (r.id = id)`, the lemmas of
`Lemmas/Lookup` about a keyed list are stated for `!=` / `==`, so only the general `find?_filter_of_imp` applies here -/
theorem getRec_delete (R : Reg) (i id : Nat) : getRec (deleteRecordById R i) id = if i = id then none else getRec R id := by
  unfold getRec deleteRecordById
  by_cases h : i = id
  · subst h
    rw [if_pos rfl, List.find?_eq_none]
    intro x hx
    have := (List.mem_filter.mp hx).2
    simpa using this
  · rw [if_neg h]
    exact find?_filter_of_imp _ _ _ fun x hx => by simp at hx ⊢; omega

/-- what a rotation writes for `r` -/
def retarget (new : Addr) (r : IdRec) : IdRec := { r with addr := new, key := lower r.key }

theorem getRec_setRecord {R R' : Reg} {r : IdRec} (h : setRecord R r = .ok R') (id : Nat) :
    getRec R' id = if r.id = id then some { r with key := lower r.key } else getRec R id := by
  unfold setRecord at h
  split at h
  · cases h  -- another address holds the value under a unique key
  · cases h  -- written
    unfold getRec
    by_cases hid : r.id = id
    · subst hid
      simp
    · rw [if_neg hid]
      simp only [List.find?_cons]
      have : decide (r.id = id) = false := by simpa using hid
      simp only [this]
      exact find?_filter_of_imp _ _ _ fun x hx => by simp at hx ⊢; omega

/-- the record-moving loop by lookups. `g`: the lookups of the registry the whole loop started from, in which the records `rs` still
to move are found; `hg` is what makes two entries of the list with one id agree -/
theorem moveRecords_spec {new : Addr} {g : Nat → Option IdRec} {rs : List IdRec} (hg : ∀ r ∈ rs, g r.id = some r)
    {R R' : Reg} (h : moveRecords new rs R = .ok R') (id : Nat) :
    getRec R' id = if id ∈ rs.map (·.id) then (g id).map (retarget new) else getRec R id := by
  induction rs generalizing R with
  | nil => cases h; rfl
  | cons r rest ih =>
    simp only [moveRecords] at h
    split at h
    · cases h  -- the record could not be set
    · rename_i R1 h1
      rw [ih (fun x hx => hg x (List.mem_cons_of_mem _ hx)) h, getRec_setRecord h1, getRec_delete]
      simp only [List.map_cons, List.mem_cons]
      by_cases hm : id ∈ rest.map (·.id)
      · rw [if_pos hm, if_pos (.inr hm)]
      · by_cases h2 : r.id = id
        · rw [if_neg hm, if_pos h2, if_pos (.inl h2.symm), ← h2, hg r List.mem_cons_self]; rfl
        · rw [if_neg hm, if_neg h2, if_neg h2, if_neg (fun hh => hh.elim (fun e => h2 e.symm) hm)]

theorem collectRecs_spec {R : Reg} {ids : List Nat} {rs : List IdRec} (h : collectRecs R ids = .ok rs) :
    rs.map (·.id) = ids ∧ ∀ r ∈ rs, getRec R r.id = some r := by
  induction ids generalizing rs with
  | nil => simp only [collectRecs] at h; cases h; exact ⟨rfl, fun _ hr => by cases hr⟩
  | cons id rest ih =>
    simp only [collectRecs] at h
    split at h
    · cases h  -- a dangling index entry
    · rename_i r hr
      split at h
      · cases h  -- a later entry dangles
      · rename_i l hl
        cases h
        obtain ⟨i1, i2⟩ := ih hl
        have hid : r.id = id := by
          unfold getRec at hr
          have := List.find?_some hr
          simpa using this
        refine ⟨by simp [i1, hid], ?_⟩
        intro x hx
        rcases List.mem_cons.mp hx with rfl | hx
        · rw [hid]; exact hr
        · exact i2 x hx

theorem moveIdentity_spec {old new : Addr} {R R' : Reg} (h : moveIdentity old new R = .ok R') (id : Nat) :
    getRec R' id = if id ∈ idsOf R old then (getRec R id).map (retarget new) else getRec R id := by
  unfold moveIdentity at h
  split at h
  · cases h  -- the index of `old` dangles
  · rename_i rs hrs  -- the records of `old` are collected, the loop ran
    obtain ⟨c1, c2⟩ := collectRecs_spec hrs
    rw [moveRecords_spec c2 h, c1]

end Sekai.Recovery
