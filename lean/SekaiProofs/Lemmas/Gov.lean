import Sekai.Model.Gov
/-! Lemmas about the governance lifecycle model: lookup and update of proposals, `IsQuorum`, the closed form of the state each
operation returns, the tally of a local electorate (`resOf`, `localResult_eq`, `distinct`), the two loops of the EndBlocker
(`foldOpt`, the order in which a queue is walked). -/
namespace Sekai.Gov

theorem getP_mem {s : St} {id : Nat} {p : Proposal} (h : getP s id = some p) : p ∈ s.proposals ∧ p.id = id :=
  ⟨List.mem_of_find?_eq_some h, by simpa using List.find?_some h⟩

theorem getP_congr {s s' : St} (h : s'.proposals = s.proposals) (id : Nat) : getP s' id = getP s id := by
  unfold getP; rw [h]

def IdsNodup (s : St) : Prop := (s.proposals.map (·.id)).Nodup

/-- `setP` keeps the id of every entry -/
theorem setP_entry_id (p q : Proposal) : (if q.id == p.id then p else q).id = q.id := by
  split
  · rename_i h; exact (beq_iff_eq.mp h).symm
  · rfl

theorem getP_setP (s : St) (p : Proposal) (j : Nat) :
    getP (setP s p) j = (getP s j).map fun q => if q.id == p.id then p else q := by
  unfold getP setP
  rw [List.find?_map]
  congr 2
  funext q
  show ((if q.id == p.id then p else q).id == j) = (q.id == j)
  rw [setP_entry_id]

/-! The operations change more than the proposals after a `setP`, so the lemmas below speak of any state `s'` whose proposals are
those of `setP s p` (`rfl` for `setP s p` itself and for every `{ setP s p with … }` that leaves the proposals alone). -/

theorem getP_setP_same {s s' : St} {p p0 : Proposal} (hs' : s'.proposals = (setP s p).proposals)
    (h : getP s p.id = some p0) : getP s' p.id = some p := by
  rw [getP_congr hs', getP_setP, h, Option.map_some, if_pos (beq_iff_eq.mpr (getP_mem h).2)]

theorem getP_setP_other {s s' : St} {p : Proposal} {j : Nat} (hs' : s'.proposals = (setP s p).proposals)
    (h : j ≠ p.id) : getP s' j = getP s j := by
  rw [getP_congr hs', getP_setP]
  cases hq : getP s j with
  | none => rfl
  | some q => rw [Option.map_some, if_neg (by rw [beq_iff_eq, (getP_mem hq).2]; exact h)]

theorem setP_ids {s s' : St} {p : Proposal} (hs' : s'.proposals = (setP s p).proposals) :
    s'.proposals.map (·.id) = s.proposals.map (·.id) := by
  rw [hs']
  unfold setP
  rw [List.map_map]
  exact List.map_congr_left fun q _ => setP_entry_id p q

theorem IdsNodup.setP {s s' : St} {p : Proposal} (h : IdsNodup s) (hs' : s'.proposals = (setP s p).proposals) : IdsNodup s' := by
  unfold IdsNodup
  rw [setP_ids hs']
  exact h

theorem mem_setP {s s' : St} {p q : Proposal} (hs' : s'.proposals = (setP s p).proposals) (h : q ∈ s'.proposals) :
    q = p ∨ q ∈ s.proposals := by
  rw [hs'] at h
  obtain ⟨q0, hq0, rfl⟩ := List.mem_map.mp h
  split
  · exact Or.inl rfl
  · exact Or.inr hq0

theorem getP_append_of_some {s s' : St} {p q : Proposal} {j : Nat} (h : s'.proposals = s.proposals ++ [p])
    (hq : getP s j = some q) : getP s' j = some q := by
  unfold getP at *
  rw [h, List.find?_append, hq]; rfl

theorem getP_append_new {s s' : St} {p : Proposal} (h : s'.proposals = s.proposals ++ [p])
    (hnew : getP s p.id = none) : getP s' p.id = some p := by
  unfold getP at *
  rw [h, List.find?_append, hnew, Option.none_or]
  exact List.find?_cons_of_pos (beq_self_eq_true _)

theorem vote_some {s s' : St} {aa : Bool} {al : Nat → Bool} {pid v o t : Nat} (h : vote s aa al pid v o t = some s') :
    aa = true ∧ ∃ p, getP s pid = some p ∧ t ≤ p.votingEnd ∧ al p.votePerm = true ∧
      s' = { s with votes := (s.votes.filter fun x => !(x.pid == pid && x.voter == v)) ++ [⟨pid, v, o⟩] } := by
  revert h
  fun_cases vote s aa al pid v o t <;> try (intro h; cases h; done)
  next ha p hp hl hal =>      -- none of the four rejections: the vote replaces the voter's earlier one
    rintro ⟨⟩
    exact ⟨by simpa using ha, p, hp, Nat.le_of_not_lt hl, by simpa using hal, rfl⟩

theorem isQuorum_eq_none (quorum : Dec.D) (votes voters : Nat) :
    isQuorum quorum votes voters = none ↔ votes > voters ∨ quorum > Dec.one := by
  fun_cases isQuorum quorum votes voters <;> simp [*]

theorem isQuorum_eq_some (quorum : Dec.D) (votes voters : Nat) (b : Bool) :
    isQuorum quorum votes voters = some b ↔
      votes ≤ voters ∧ quorum ≤ Dec.one ∧ decide (Dec.ofInt votes ≥ Dec.mul (Dec.ofInt voters) quorum) = b := by
  fun_cases isQuorum quorum votes voters
  next h => exact ⟨nofun, fun ⟨h', _⟩ => absurd h (Nat.not_lt.mpr h')⟩         -- more votes than voters: error
  next _ h => exact ⟨nofun, fun ⟨_, h', _⟩ => absurd h (Int.not_lt.mpr h')⟩    -- a quorum above 1: error
  next h1 h2 =>                                                                -- otherwise the comparison is the answer
    exact ⟨fun h => ⟨Nat.le_of_not_lt h1, Int.not_lt.mp h2, Option.some.inj h⟩, fun ⟨_, _, h⟩ => congrArg some h⟩

/-- the result a tally stores: `res` in `processProposal`, and the same match in `localResult` -/
def resOf (quorumOk : Bool) (tl : Tally) : Res :=
  if quorumOk then
    match tl with
    | .passed => .enactment
    | .rejected => .rejected
    | .rejectedWithVeto => .rejectedWithVeto
    | .unknown => .unknown
  else .quorumNotReached

theorem resOf_enactment {q : Bool} {tl : Tally} : resOf q tl = .enactment ↔ q = true ∧ tl = .passed := by
  cases q <;> cases tl <;> simp [resOf]

theorem resOf_ne_passed (q : Bool) (tl : Tally) : resOf q tl ≠ .passed := by
  cases q <;> cases tl <;> simp [resOf]

theorem processEnactment_some {applyOk : Nat → Bool} {t h : Nat} {s s' : St} {id : Nat}
    (hs : processEnactment applyOk t h s id = some s') :
    ∃ p, getP s id = some p ∧
      (s' = s ∨ s' = { s with enact := s.enact.filter (· != id) } ∨
        (p.result = .enactment ∧ p.enactEnd ≤ t ∧ p.minEnactH ≤ h ∧
          s' = { setP s { p with result := .passed, exec := some (applyOk p.id) } with
                 log := s.log ++ [⟨p.id, p.content, t, h, applyOk p.id⟩], enact := s.enact.filter (· != id) })) := by
  revert hs
  fun_cases processEnactment applyOk t h s id <;> try (intro hs; cases hs; done)
  next p hp _ =>              -- the enactment end lies after the block time: outside the iterator's range
    rintro ⟨⟩; exact ⟨p, hp, Or.inl rfl⟩
  next p hp _ _ =>            -- the minimum enactment height is not reached
    rintro ⟨⟩; exact ⟨p, hp, Or.inl rfl⟩
  next p hp hE hH s1 =>       -- due: the content is applied if the result is `enactment`; either way the entry leaves the queue
    rintro ⟨⟩
    refine ⟨p, hp, Or.inr ?_⟩
    by_cases hR : (p.result == .enactment) = true
    · rw [show s1 = _ from if_pos hR]
      exact Or.inr ⟨beq_iff_eq.mp hR, Nat.le_of_not_lt hE, Nat.le_of_not_lt hH, rfl⟩
    · rw [show s1 = s from if_neg hR]
      exact Or.inl rfl

/-- `vs`, the votes cast on the entry, is a variable only to keep the closed form readable: callers pass `rfl` for `hvs` -/
theorem processProposal_some {voters : Nat → List Nat} {tally : Nat → Nat → Nat → Nat → Nat → Nat → Tally}
    {quorum : Dec.D} {meb t h : Nat} {s s' : St} {id : Nat} {vs : List Vote} (hvs : vs = s.votes.filter (·.pid == id))
    (hs : processProposal voters tally quorum meb t h s id = some s') :
    ∃ p, getP s id = some p ∧
      (s' = s ∨
        ∃ q, p.votingEnd ≤ t ∧ p.minVoteH ≤ h ∧ isQuorum quorum vs.length (voters p.votePerm).length = some q ∧
          s' = { setP s { p with
                   result := resOf q (tally (countOpt vs 1) (countOpt vs 3) (countOpt vs 2) (countOpt vs 4)
                     (voters p.votePerm).length vs.length),
                   minEnactH := h + meb } with
                 active := s.active.filter (· != id), enact := s.enact.filter (· != id) ++ [id],
                 tlog := s.tlog ++ [⟨id, countOpt vs 1, countOpt vs 3, countOpt vs 2, countOpt vs 4,
                   (voters p.votePerm).length, vs.length, q,
                   tally (countOpt vs 1) (countOpt vs 3) (countOpt vs 2) (countOpt vs 4) (voters p.votePerm).length vs.length,
                   t, h⟩] }) := by
  subst hvs
  revert hs
  fun_cases processProposal voters tally quorum meb t h s id <;> try (intro hs; cases hs; done)
  next p hp _ =>              -- the voting end lies after the block time: outside the iterator's range
    rintro ⟨⟩; exact ⟨p, hp, Or.inl rfl⟩
  next p hp _ _ =>            -- the minimum voting height is not reached
    rintro ⟨⟩; exact ⟨p, hp, Or.inl rfl⟩
  next p hp hE hH _ _ q hq _ _ _ =>   -- due and `IsQuorum` answered `q`: the tally is taken and stored
    rintro ⟨⟩; exact ⟨p, hp, Or.inr ⟨q, Nat.le_of_not_lt hE, Nat.le_of_not_lt hH, hq, rfl⟩⟩

theorem processProposal_active {voters : Nat → List Nat} {tally : Nat → Nat → Nat → Nat → Nat → Nat → Tally}
    {quorum : Dec.D} {meb t h : Nat} {s s' : St} {id j : Nat}
    (hs : processProposal voters tally quorum meb t h s id = some s') (hj : j ≠ id) (h : j ∈ s.active) : j ∈ s'.active := by
  obtain ⟨p, -, rfl | ⟨q, -, -, -, rfl⟩⟩ := processProposal_some rfl hs
  · exact h
  · exact List.mem_filter.mpr ⟨h, by simpa using hj⟩

theorem localResult_eq (tally : Nat → Nat → Nat → Nat → Nat → Nat → Tally) (q : Dec.D) (accounts roleMembers : List Nat)
    (y n a v o : Nat) :
    localResult tally q accounts roleMembers y n a v o =
      (isQuorum q (y + n + a + v + o) (localElectorate accounts roleMembers)).map fun b =>
        resOf b (tally y n a v 0 (y + n + a + v + o)) := by
  unfold localResult
  simp only
  cases isQuorum q (y + n + a + v + o) (localElectorate accounts roleMembers) with
  | none => rfl
  | some b => cases b <;> rfl

/-- induction along `foldOpt` with an invariant that may speak of the entries still to come -/
theorem foldOpt_induct {α β} (f : β → α → Option β) (P : List α → β → Prop)
    (hstep : ∀ a as b b', P (a :: as) b → f b a = some b' → P as b') :
    ∀ (l : List α) (b b' : β), P l b → foldOpt f b l = some b' → P [] b' := by
  intro l
  induction l with
  | nil => intro b b' hb h; cases h; exact hb
  | cons a as ih =>
    intro b b' hb h
    unfold foldOpt at h
    split at h
    · rename_i b1 hf; exact ih b1 b' (hstep a as b b1 hb hf) h
    · cases h

theorem foldOpt_inv {α β} (f : β → α → Option β) (P : β → Prop)
    (hstep : ∀ b a b', P b → f b a = some b' → P b') :
    ∀ (l : List α) (b b' : β), P b → foldOpt f b l = some b' → P b' :=
  foldOpt_induct f (fun _ => P) fun a _ b b' => hstep b a b'

theorem endBlock_some {voters : Nat → List Nat} {tally : Nat → Nat → Nat → Nat → Nat → Nat → Tally}
    {applyOk : Nat → Bool} {quorum : Dec.D} {meb t h : Nat} {s s' : St}
    (hs : endBlock voters tally applyOk quorum meb t h s = some s') :
    ∃ s1, foldOpt (processEnactment applyOk t h) s (queueOrder s s.enact (·.enactEnd)) = some s1 ∧
      foldOpt (processProposal voters tally quorum meb t h) s1 (queueOrder s1 s1.active (·.votingEnd)) = some s' := by
  revert hs
  fun_cases endBlock voters tally applyOk quorum meb t h s <;> try (intro hs; cases hs; done)
  next s1 h1 => exact fun hs => ⟨s1, h1, hs⟩    -- no panic escaped the enactment loop: the tally loop runs on what it left

theorem insertKey_perm (k : Nat × Nat) (l : List (Nat × Nat)) : (insertKey k l).Perm (k :: l) := by
  induction l with
  | nil => exact List.Perm.refl _
  | cons x xs ih =>
    unfold insertKey
    split
    · exact List.Perm.refl _
    · exact (List.Perm.cons x ih).trans (List.Perm.swap k x xs)

theorem sortKeys_perm (l : List (Nat × Nat)) : (sortKeys l).Perm l := by
  induction l with
  | nil => exact List.Perm.refl _
  | cons x xs ih => exact (insertKey_perm x _).trans (List.Perm.cons x ih)

theorem queueOrder_spec (s : St) (q : List Nat) (sel : Proposal → Nat) (hq : q.Nodup) :
    (queueOrder s q sel).Nodup ∧ ∀ id ∈ queueOrder s q sel, id ∈ q := by
  have hsub : ∀ l : List Nat, ((l.filterMap fun id => (getP s id).map fun p => (sel p, id)).map (·.2)).Sublist l := by
    intro l
    induction l with
    | nil => exact List.Sublist.slnil
    | cons a as ih =>
      rw [List.filterMap_cons]
      cases getP s a with
      | none => exact ih.cons a
      | some p => exact ih.cons_cons a
  have hperm := (sortKeys_perm (q.filterMap fun id => (getP s id).map fun p => (sel p, id))).map (·.2)
  exact ⟨hperm.nodup_iff.mpr (hq.sublist (hsub q)), fun id hid => (hsub q).subset (hperm.mem_iff.mp hid)⟩

theorem distinct_cons_of_mem {a : Nat} {l : List Nat} (h : a ∈ l) : distinct (a :: l) = distinct l := if_pos h

theorem distinct_cons_of_not_mem {a : Nat} {l : List Nat} (h : a ∉ l) : distinct (a :: l) = a :: distinct l := if_neg h

theorem mem_distinct (l : List Nat) (x : Nat) : x ∈ distinct l ↔ x ∈ l := by
  induction l with
  | nil => exact Iff.rfl
  | cons a t ih =>
    by_cases h : a ∈ t
    · rw [distinct_cons_of_mem h, ih, List.mem_cons]
      exact ⟨Or.inr, fun h' => h'.elim (fun e => e ▸ h) id⟩
    · rw [distinct_cons_of_not_mem h, List.mem_cons, List.mem_cons, ih]

end Sekai.Gov
