import Sekai.Model.Upgrade
/-! The x/upgrade plan machine: the BeginBlocker's effect on the state, the scheduling handler inverted, one operation's
effect on the plan on record. What `begin` returns is stated in Props/C06: branch by branch where it does not halt
(`upgrade_no_plan_idle`, …), the three halts together (`upgrade_halts_iff`). -/
namespace Sekai.Upgrade

theorem begin_effect (s : St) (now : Int) (hh : String → Bool) (po : Bool) :
    (begin s now hh po).1 = s ∨
    (begin s now hh po).2.isHalt = false ∧ ∃ p, s.next = some p ∧
      ((begin s now hh po).1 = { s with next := some { p with processed := true } } ∨
       (begin s now hh po).1 = { next := none, current := some p }) := by
  fun_cases begin s now hh po <;> try exact .inl rfl      -- no plan, not due, or one of the three halts: state untouched
  next p h _ _ _ => exact .inr ⟨rfl, p, h, .inl rfl⟩        -- first pass: validators paused, plan marked processed
  next p h _ _ _ _ => exact .inr ⟨rfl, p, h, .inr rfl⟩      -- instate upgrade, handler skipped
  next p h _ _ _ _ _ => exact .inr ⟨rfl, p, h, .inr rfl⟩    -- instate upgrade, handler ran

theorem schedule_eq_some {s s' : St} {p : Plan} {now : Int} :
    schedule s p now = some s' ↔ now < p.time ∧ s' = { s with next := some { p with processed := false } } := by
  simp only [schedule, Option.ite_none_left_eq_some, Option.some.injEq, Int.not_le, eq_comm (b := s')]

theorem next_of_apply {s : St} {op : Op} {p : Plan} (h : (apply s op).next = some p) :
    (∃ q now, op = .schedule q now ∧ now < q.time ∧ { q with processed := p.processed } = p) ∨
    ∃ p1, s.next = some p1 ∧ { p1 with processed := p.processed } = p := by
  cases op with
  | cancel => cases h
  | schedule q now =>
    change ((schedule s q now).getD s).next = some p at h
    cases hs : schedule s q now with
    | none => rw [hs] at h; exact .inr ⟨p, h, rfl⟩
    | some s' =>
      obtain ⟨ht, rfl⟩ := schedule_eq_some.mp hs
      rw [hs] at h; cases h
      exact .inl ⟨q, now, rfl, ht, rfl⟩
  | begin now hh po =>
    refine .inr ?_
    change (begin s now hh po).1.next = some p at h
    rcases begin_effect s now hh po with hs | ⟨_, p1, h1, hs | hs⟩ <;> rw [hs] at h
    · exact ⟨p, h, rfl⟩                    -- state untouched
    · cases h; exact ⟨p1, h1, rfl⟩         -- the old plan, marked processed
    · cases h                              -- the slot was cleared

end Sekai.Upgrade
