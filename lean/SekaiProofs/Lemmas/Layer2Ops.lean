import SekaiProofs.Lemmas.Layer2Store
import SekaiProofs.Lemmas.Layer2Bank
/-! What each modelled operation does when it succeeds, in closed form: the three bond operations and the shape they
share (`BondStep`), the refund loop (also: when it goes through), one iteration of the end-block loop, the proposal and the
transfer; the three LP messages never succeed. Then the case principles the invariants are proved by (`endBlockLoop_induct`,
`step_cases`, `apply_cases`) and, as their first use, the frame. The shapes (`BondStep`, `Relabel`, the cases of `apply_cases`) say what
the invariants read — `dapps`, `bonds`, `ledger`, `P`, `addr`, the module's balances — and not `spools`, `bank.supply`, `bank.tokReg`,
user balances or every guard (the `f_ok` lemmas have those for the bond operations). -/
namespace Sekai.Layer2

theorem createDapp_ok {s s' : St} {t u : Nat} {perm : Bool} {d : Dapp} {den : Bytes} {amt : Int}
    (h : createDapp s t u perm d den amt = .ok s') :
    ∃ s1, (if 0 < amt then s.escrowIn u d.name den amt else some s) = some s1 ∧ findDapp s1.dapps d.name = none ∧
      s' = { s1 with dapps := setDapp s1.dapps { d with bondDenom := den, bond := amt, creationTime := t, status := 0 }
                     bonds := setBond s1.bonds { dapp := d.name, user := u, denom := den, amt := amt } } ∧
      ¬ (perm = false ∧ den ≠ s.P.native) ∧ ¬ (perm = false ∧ amt * 100 < (s.P.minBond : Int) * million) := by
  revert h
  fun_cases createDapp s t u perm d den amt <;> try (intro h; cases h; done)
  next h1 h2 s1 hs1 hf => intro h; exact ⟨s1, hs1, hf, (Except.ok.inj h).symm, h1, h2⟩

theorem bondRecord_some {bs : List UBond} {u : Nat} {name den : Bytes} {amt : Int} {nb : UBond}
    (h : bondRecord bs u name den amt = some nb) :
    nb.dapp = name ∧ nb.user = u ∧ nb.denom = den ∧ nb.amt = bondAmt bs name u + amt := by
  unfold bondRecord at h
  unfold bondAmt
  split at h
  · rename_i b hb             -- a record of `u` exists
    obtain ⟨_, hb1, hb2⟩ := findBond_some hb
    split at h
    · cases h               -- in another denom: `Coin.Add` panics
    · rename_i hden         -- in the same denom: the amount is added
      cases h
      exact ⟨hb1, hb2, Classical.not_not.mp hden, rfl⟩
  · cases h                   -- no record yet: a new one
    exact ⟨rfl, rfl, rfl, (Int.zero_add _).symm⟩

theorem bondDapp_ok {s s' : St} {u : Nat} {name den : Bytes} {amt : Int} (h : bondDapp s u name den amt = .ok s') :
    ∃ d s1 nb, findDapp s.dapps name = some d ∧ s.P.native = den ∧ d.bondDenom = den ∧ d.bond + amt ≤ (s.P.maxBond : Int) * million ∧
      s.escrowIn u name den amt = some s1 ∧ bondRecord s1.bonds u name den amt = some nb ∧
      s' = { s1 with dapps := setDapp s1.dapps { d with bond := d.bond + amt }, bonds := setBond s1.bonds nb } := by
  revert h
  fun_cases bondDapp s u name den amt <;> try (intro h; cases h; done)
  next d hd h1 h2 h3 s1 hs1 nb hnb =>
    intro h
    exact ⟨d, s1, nb, hd, Classical.not_not.mp h1, Classical.not_not.mp h2, Int.not_lt.mp h3, hs1, hnb, (Except.ok.inj h).symm⟩

theorem reclaimDapp_ok {s s' : St} {u : Nat} {name den : Bytes} {amt : Int} (h : reclaimDapp s u name den amt = .ok s') :
    ∃ d b s1, findDapp s.dapps name = some d ∧ findBond s.bonds name u = some b ∧ b.denom = den ∧ amt ≤ b.amt ∧
      d.bondDenom = den ∧ 0 ≤ d.bond - amt ∧ s.escrowOut u name den amt = some s1 ∧
      s' = { s1 with dapps := setDapp s1.dapps { d with bond := d.bond - amt }, bonds := setBond s1.bonds { b with amt := b.amt - amt } } := by
  revert h
  fun_cases reclaimDapp s u name den amt <;> try (intro h; cases h; done)
  next d hd b hb h1 h2 h3 h4 s1 hs1 =>
    intro h
    exact ⟨d, b, s1, hd, hb, Classical.not_not.mp h1, Int.not_lt.mp h2, Classical.not_not.mp h3, Int.not_lt.mp h4, hs1, (Except.ok.inj h).symm⟩

/-- The shape a successful `createDapp`, `bondDapp` and `reclaimDapp` share. `r` is the dApp record and `nb` the bond record of
user `u` that the operation WRITES; both stored amounts grow by `δ`; `μ` coins of the bond denom come into the module
(negative for a reclaim; the balance of `u` is in the `f_ok` lemmas) and onto the ghost ledger. `μ = δ`, except that the negative bond of a permissioned creator is recorded
and nothing is paid. -/
structure BondStep (s s' : St) (u : Nat) (δ μ : Int) (r : Dapp) (nb : UBond) : Prop where
  P : s'.P = s.P
  addr : s'.addr = s.addr
  dapps : s'.dapps = setDapp s.dapps r
  bonds : s'.bonds = setBond s.bonds nb
  ledger : ∀ n v, s'.ledger n v = if n = r.name ∧ v = u then s.ledger n v + μ else s.ledger n v
  l2 : s'.bank.bal .l2 r.bondDenom = s.bank.bal .l2 r.bondDenom + μ
  l2Other : ∀ den, den ≠ r.bondDenom → s'.bank.bal .l2 den = s.bank.bal .l2 den
  key : nb.dapp = r.name ∧ nb.user = u ∧ nb.denom = r.bondDenom
  stored : (findDapp s.dapps r.name = none ∧ r.bond = δ ∧ nb.amt = δ) ∨       -- a new dApp (create)
    ∃ d, findDapp s.dapps r.name = some d ∧                                   -- an existing one (bond, reclaim): denom and status kept
      r.bondDenom = d.bondDenom ∧ r.status = d.status ∧ r.bond = d.bond + δ ∧
      nb.amt = bondAmt s.bonds r.name u + δ

/-- `μ = amt` unless a permissioned creator records a negative bond: the case that `opOk` (Layer2Good) excludes -/
theorem createDapp_bondStep {s s' : St} {t u : Nat} {perm : Bool} {d : Dapp} {den : Bytes} {amt : Int}
    (h : createDapp s t u perm d den amt = .ok s') :
    ∃ r nb μ, BondStep s s' u amt μ r nb ∧ r.bond = amt ∧ ((perm = true → 0 ≤ amt) → μ = amt) := by
  obtain ⟨s1, hs1, hf, rfl, _, hlow⟩ := createDapp_ok h
  -- without the permission the minimum bond is demanded, so the bond is not negative
  have hnn : (perm = true → 0 ≤ amt) → 0 ≤ amt := fun hp => by
    cases perm with
    | true => exact hp rfl
    | false =>
      have : ¬ amt * 100 < (s.P.minBond : Int) * million := fun hh => hlow ⟨rfl, hh⟩
      unfold million at this
      omega
  split at hs1
  · obtain ⟨bk, hbk, rfl⟩ := escrowIn_some hs1
    exact ⟨_, _, amt, { P := rfl, addr := rfl, dapps := rfl, bonds := rfl, ledger := fun _ _ => rfl,
                        l2 := send_bal_dst hbk (by simp), l2Other := fun _ hd => send_other_denom hbk _ _ hd,
                        key := ⟨rfl, rfl, rfl⟩, stored := Or.inl ⟨hf, rfl, rfl⟩ }, rfl, fun _ => rfl⟩
  · cases hs1
    exact ⟨_, _, 0, { P := rfl, addr := rfl, dapps := rfl, bonds := rfl, ledger := fun _ _ => by simp,
                      l2 := (Int.add_zero _).symm, l2Other := fun _ _ => rfl, key := ⟨rfl, rfl, rfl⟩,
                      stored := Or.inl ⟨hf, rfl, rfl⟩ }, rfl, fun hp => by have := hnn hp; omega⟩

theorem bondDapp_bondStep {s s' : St} {u : Nat} {name den : Bytes} {amt : Int} (h : bondDapp s u name den amt = .ok s') :
    ∃ r nb, BondStep s s' u amt amt r nb ∧ r.bond ≤ (s.P.maxBond : Int) * million := by
  obtain ⟨d, s1, nb, hd, _, rfl, hmax, hs1, hnb, rfl⟩ := bondDapp_ok h
  obtain ⟨bk, hbk, rfl⟩ := escrowIn_some hs1
  obtain ⟨_, rfl⟩ := findDapp_some hd
  obtain ⟨n1, n2, n3, n4⟩ := bondRecord_some hnb
  exact ⟨_, nb, { P := rfl, addr := rfl, dapps := rfl, bonds := rfl, ledger := fun _ _ => rfl,
                   l2 := send_bal_dst hbk (by simp), l2Other := fun _ hd => send_other_denom hbk _ _ hd,
                   key := ⟨n1, n2, n3⟩, stored := Or.inr ⟨d, hd, rfl, rfl, rfl, n4⟩ }, hmax⟩

theorem reclaimDapp_bondStep {s s' : St} {u : Nat} {name den : Bytes} {amt : Int} (h : reclaimDapp s u name den amt = .ok s') :
    ∃ r nb, BondStep s s' u (-amt) (-amt) r nb ∧ 0 < amt := by
  obtain ⟨d, b, s1, hd, hb, hbden, _, rfl, _, hs1, rfl⟩ := reclaimDapp_ok h
  obtain ⟨bk, hbk, rfl⟩ := escrowOut_some hs1
  obtain ⟨_, rfl⟩ := findDapp_some hd
  obtain ⟨_, hb1, hb2⟩ := findBond_some hb
  have hamt : bondAmt s.bonds d.name u = b.amt := by unfold bondAmt; rw [hb]
  exact ⟨_, _, { P := rfl, addr := rfl, dapps := rfl, bonds := rfl, ledger := fun _ _ => by simp only [Int.sub_eq_add_neg],
                  l2 := send_bal_src hbk (by simp), l2Other := fun _ hd => send_other_denom hbk _ _ hd,
                  key := ⟨hb1, hb2, hbden⟩, stored := Or.inr ⟨d, hd, rfl, rfl, Int.sub_eq_add_neg, by rw [hamt]; exact Int.sub_eq_add_neg⟩ },
    (send_some hbk).2.1⟩

/-- what `refundLoop` over `l` pays against the ledger entry `(n, u)` -/
def paid : List UBond → Bytes → Nat → Int
  | [], _, _ => 0
  | b :: l, n, u => (if n = b.dapp ∧ u = b.user then b.amt else 0) + paid l n u

/-- For ANY list of records (a scan with prefix collisions included): a record is paid out against the ledger entry of its
own dApp, but the key deleted is `(name, its user)`. The bank part needs records of one dApp in one denom with unique keys:
`RefundPaid`; under the books both together: `OwnRefund` (Layer2Books). Effects only: the guards of the loop (every `escrowOut`
passed: valid denom, positive amount, module balance) are in no field. -/
structure RefundEffect (s s' : St) (name : Bytes) (l : List UBond) : Prop where
  bonds : s'.bonds = delBondsOf s.bonds name l
  dapps : s'.dapps = s.dapps
  P : s'.P = s.P
  addr : s'.addr = s.addr
  spools : s'.spools = s.spools
  ledger : ∀ n u, s'.ledger n u = s.ledger n u - paid l n u

theorem refundLoop_some {s s' : St} {name : Bytes} {l : List UBond} (h : refundLoop s name l = some s') :
    RefundEffect s s' name l := by
  fun_induction refundLoop s name l with
  | case1 =>                        -- no record left
    cases h
    exact { bonds := rfl, dapps := rfl, P := rfl, addr := rfl, spools := rfl, ledger := fun _ _ => (Int.sub_zero _).symm }
  | case2 => cases h                -- the bank refuses a payment
  | case3 s b rest s1 hs1 ih =>     -- `b` is paid out, the key `(name, b.user)` deleted, on with `rest`
    obtain ⟨bk, _, rfl⟩ := escrowOut_some hs1
    have i := ih h
    refine { bonds := i.bonds, dapps := i.dapps, P := i.P, addr := i.addr, spools := i.spools, ledger := fun n u => ?_ }
    rw [i.ledger]
    show (if n = b.dapp ∧ u = b.user then _ else _) - _ = _ - ((if n = b.dapp ∧ u = b.user then _ else _) + _)
    split <;> omega

/-- with unique keys at most one record pays `(n, u)`: what is paid is what is recorded -/
theorem paid_eq_bondAmt {l : List UBond} (hn : (keys l).Nodup) (n : Bytes) (u : Nat) : paid l n u = bondAmt l n u := by
  induction l with
  | nil => rfl
  | cons x xs ih =>
    show (if n = x.dapp ∧ u = x.user then x.amt else 0) + paid xs n u = _
    rw [bondAmt_cons, ih (List.nodup_cons.mp hn).2]
    by_cases hk : x.dapp = n ∧ x.user = u
    · obtain ⟨rfl, rfl⟩ := hk
      rw [if_pos ⟨rfl, rfl⟩, if_pos ⟨rfl, rfl⟩, bondAmt_tail_eq_zero hn]
      omega
    · rw [if_neg (fun hh => hk ⟨hh.1.symm, hh.2.symm⟩), if_neg hk]
      omega

theorem paid_of_mem {l : List UBond} {b : UBond} (hn : (keys l).Nodup) (hb : b ∈ l) : paid l b.dapp b.user = b.amt := by
  rw [paid_eq_bondAmt hn]
  exact bondAmt_of_mem hn hb

/-- The bank part of a refund over records of ONE dApp in one denom with unique keys. Unique keys make the record of `u` the only
payment to `u`: this is what a prefix collision in the scan breaks. Effects only, like `RefundEffect`. -/
structure RefundPaid (s s' : St) (name den : Bytes) (l : List UBond) : Prop where
  module : s'.bank.bal .l2 den = s.bank.bal .l2 den - bondSum l name
  users : ∀ u, s'.bank.bal (.user u) den = s.bank.bal (.user u) den + bondAmt l name u
  otherDenoms : ∀ a d', d' ≠ den → s'.bank.bal a d' = s.bank.bal a d'

theorem refundLoop_own {name den : Bytes} {l : List UBond} (hl : ∀ b ∈ l, b.dapp = name ∧ b.denom = den) (hn : (keys l).Nodup)
    {s s' : St} (h : refundLoop s name l = some s') : RefundPaid s s' name den l := by
  fun_induction refundLoop s name l with
  | case1 =>                        -- no record left
    cases h
    exact { module := (Int.sub_zero _).symm, users := fun _ => (Int.add_zero _).symm, otherDenoms := fun _ _ _ => rfl }
  | case2 => cases h                -- the bank refuses a payment
  | case3 s b rest s1 hs1 ih =>     -- `b` is paid out, on with `rest`
    obtain ⟨bk, hbk, rfl⟩ := escrowOut_some hs1
    obtain ⟨hd, rfl⟩ := hl b List.mem_cons_self
    have i := ih (fun c hc => hl c (List.mem_cons_of_mem _ hc)) (List.nodup_cons.mp hn).2 h
    refine { module := ?_, users := fun u => ?_,
             otherDenoms := fun a d' hd' => (i.otherDenoms a d' hd').trans (send_other_denom hbk a d' hd') }
    · rw [i.module, bondSum_cons, if_pos hd]
      show bk.bal .l2 b.denom - _ = _
      rw [send_bal_src hbk (by simp)]
      omega
    · rw [i.users, bondAmt_cons]
      show bk.bal (.user u) b.denom + _ = _
      by_cases hu : b.user = u
      · subst hu
        rw [if_pos ⟨hd, rfl⟩, send_bal_dst hbk (by simp), ← hd, bondAmt_tail_eq_zero hn]
        omega
      · rw [if_neg (fun hh => hu hh.2), send_bal_other hbk (by simp) (fun e => hu (Acct.user.inj e).symm)]

theorem refundLoop_succeeds {name den : Bytes} {l : List UBond} {s : St} (hl : ∀ b ∈ l, 0 < b.amt ∧ b.dapp = name ∧ b.denom = den)
    (hv : validDenom den = true) (hf : bondSum l name ≤ s.bank.bal .l2 den) : ∃ s', refundLoop s name l = some s' := by
  induction l generalizing s with
  | nil => exact ⟨s, rfl⟩
  | cons b rest ih =>
    obtain ⟨hpos, hd, rfl⟩ := hl b List.mem_cons_self
    have hrest : ∀ c ∈ rest, 0 < c.amt ∧ c.dapp = name ∧ c.denom = b.denom := fun c hc => hl c (List.mem_cons_of_mem _ hc)
    have hnn := bondSum_nonneg (d := name) (fun c hc => (hrest c hc).1)
    rw [bondSum_cons, if_pos hd] at hf
    unfold refundLoop St.escrowOut Bank.send
    rw [if_pos ⟨hv, hpos, by omega⟩]
    apply ih hrest
    simp [addBal_bal]
    omega

theorem finishBootstrap_ok {s s' : St} {t : Nat} {d : Dapp} (h : finishBootstrap s t d = .ok s') :
    s' = s ∨
    (d.bond < (s.P.minBond : Int) * million ∧ ∃ s1, refundLoop s d.name (scanBonds s.addr s.bonds d.name) = some s1 ∧
        s' = { s1 with dapps := delDapp s1.dapps d.name }) ∨
    (∃ bk sp,
        s' = { s with bank := bk, spools := sp, dapps := setDapp s.dapps { d with status := 3, premintTime := t }
                      bonds := delBondsOf s.bonds d.name (scanBonds s.addr s.bonds d.name)
                      ledger := fun n v => if n = d.name then 0 else s.ledger n v } ∧
        ∀ a den, den ≠ lpOf d.denom → bk.bal a den = s.bank.bal a den) := by
  -- after the mint, the deposit to the spending pool (which may fail silently) touches the LP denom only
  have hdep : ∀ b1, s.bank.tkMint (lpOf d.denom) (lpTotalSupply d) = some b1 → ∀ a den, den ≠ lpOf d.denom →
      (match b1.send .l2 .spending (lpOf d.denom) (lpDeposit d) with
        | some b2 => b2
        | none => b1).bal a den = s.bank.bal a den := by
    intro b1 hb1 a den hden
    have hmint : b1.bal a den = s.bank.bal a den := by
      obtain ⟨_, _, rfl⟩ := tkMint_some hb1
      simp [addBal_bal, hden]
    split
    next b2 hb2 => exact (send_other_denom hb2 a den hden).trans hmint
    next => exact hmint
  revert h
  fun_cases finishBootstrap s t d <;> try (intro h; cases h; done)
  next hlow s1 hs1 =>       -- below the minimum, `ExecuteDappRemove` returned nil: its writes are kept
    intro h
    unfold executeRemove at hs1
    split at hs1
    · cases hs1
    · rename_i s0 hs0
      cases hs1
      exact Or.inr (Or.inl ⟨hlow, s0, hs0, (Except.ok.inj h).symm⟩)
  next => intro h; exact Or.inl (Except.ok.inj h).symm     -- below the minimum, `ExecuteDappRemove` failed: the cache is dropped
  next => intro h; exact Or.inl (Except.ok.inj h).symm     -- the LP denom is not valid: nothing happens
  next =>                                         -- launch, the premint goes to the team reserve
    intro h
    exact Or.inr (Or.inr ⟨_, _, (Except.ok.inj h).symm, fun a den hden =>
      (send_other_denom ‹Bank.send _ .l2 (.user _) _ d.premint = some _› a den hden).trans
        (hdep _ ‹s.bank.tkMint _ _ = some _› a den hden)⟩)
  next =>                                         -- launch without premint
    intro h
    exact Or.inr (Or.inr ⟨_, _, (Except.ok.inj h).symm, hdep _ ‹s.bank.tkMint _ _ = some _›⟩)

theorem finishBootstrap_low {s s1 : St} {t : Nat} {d : Dapp} (hlow : d.bond < (s.P.minBond : Int) * million)
    (h : refundLoop s d.name (scanBonds s.addr s.bonds d.name) = some s1) :
    finishBootstrap s t d = .ok { s1 with dapps := delDapp s1.dapps d.name } := by
  unfold finishBootstrap executeRemove
  rw [if_pos hlow, h]

theorem postMint_of_not_active {s : St} {t : Nat} {d : Dapp} (h : d.status ≠ 1) : postMint s t d = .ok (s, d) := by
  unfold postMint
  rw [if_neg (fun hc => h hc.2.2)]

theorem liquidate_of_not_active {s : St} {t : Nat} {d : Dapp} (h : d.status ≠ 1) : liquidate s t d = s := by
  unfold liquidate
  rw [if_neg (fun hc => h hc.1)]

theorem liquidate_eq (s : St) (t : Nat) (d : Dapp) :
    liquidate s t d = s ∨ liquidate s t d = { s with dapps := setDapp s.dapps { d with status := 3 } } := by
  unfold liquidate
  split
  · exact Or.inr rfl      -- active and past the liquidation period: halted
  · exact Or.inl rfl

theorem postMint_ok {s s' : St} {t : Nat} {d d' : Dapp} (h : postMint s t d = .ok (s', d')) :
    (s' = s ∧ d' = d) ∨
    (d' = { d with postMintPaid := true } ∧ ∃ bk, s' = { s with bank := bk, dapps := setDapp s.dapps { d with postMintPaid := true } } ∧
      ∀ a den, den ≠ lpOf d.denom → bk.bal a den = s.bank.bal a den) := by
  revert h
  fun_cases postMint s t d <;> try (intro h; cases h; done)
  next bk hbk =>          -- the drip time is over, a post-mint is set, the dApp is active: the premint amount is sent
    intro h
    cases h
    exact Or.inr ⟨rfl, bk, rfl, fun a den hden => send_other_denom hbk a den hden⟩
  next => intro h; cases h; exact Or.inl ⟨rfl, rfl⟩       -- nothing due

theorem endBlockDapp_bootstrap {s : St} {t : Nat} {d : Dapp} (hst : d.status = 0) :
    endBlockDapp s t d = if d.creationTime + s.P.bondDuration ≤ t then finishBootstrap s t d else .ok s := by
  have h1 : d.status ≠ 1 := by rw [hst]; decide
  unfold endBlockDapp
  by_cases hdue : d.creationTime + s.P.bondDuration ≤ t
  · rw [if_pos ⟨hst, hdue⟩, if_pos hdue]
    cases finishBootstrap s t d with
    | error e => rfl
    | ok s1 => simp only [postMint_of_not_active h1, liquidate_of_not_active h1]
  · rw [if_neg (fun hc => hdue hc.2), if_neg hdue]
    simp only [postMint_of_not_active h1, liquidate_of_not_active h1]

/-- `r` has the name, bond and bond denom of `d` (it differs in labels: status, post-mint flag, premint time), and the bank moves in the LP denom
of `d` at most (LP mint, premint and post-mint pay-outs: `bankOther`, which is why `Held` needs `NativeNotLp`); the second
alternative of `records` is a launch, which also clears the bond records and the ledger entries of the dApp -/
structure Relabel (s s' : St) (d r : Dapp) : Prop where
  P : s'.P = s.P
  addr : s'.addr = s.addr
  dapps : s'.dapps = setDapp s.dapps r
  name : r.name = d.name
  bond : r.bond = d.bond
  bondDenom : r.bondDenom = d.bondDenom
  notBootstrap : r.status ≠ 0
  bankOther : ∀ a den, den ≠ lpOf d.denom → s'.bank.bal a den = s.bank.bal a den
  records : (s'.bonds = s.bonds ∧ s'.ledger = s.ledger) ∨
    (s'.bonds = delBondsOf s.bonds d.name (scanBonds s.addr s.bonds d.name) ∧
      ∀ n v, s'.ledger n v = if n = d.name then 0 else s.ledger n v)

theorem endBlockDapp_cases {s s' : St} {t : Nat} {d : Dapp} (h : endBlockDapp s t d = .ok s') :
    s' = s ∨
    (d.status = 0 ∧ ∃ s1, refundLoop s d.name (scanBonds s.addr s.bonds d.name) = some s1 ∧
        s' = { s1 with dapps := delDapp s1.dapps d.name }) ∨
    ∃ r, Relabel s s' d r := by
  by_cases hst : d.status = 0
  · rw [endBlockDapp_bootstrap hst] at h
    split at h
    · rcases finishBootstrap_ok h with rfl | ⟨_, hs1⟩ | ⟨bk, sp, rfl, hbk⟩
      · exact Or.inl rfl                       -- the refund failed, or the LP denom is not valid
      · exact Or.inr (Or.inl ⟨hst, hs1⟩)       -- refund and removal
      · exact Or.inr (Or.inr ⟨_, {             -- launch
          P := rfl, addr := rfl, dapps := rfl, name := rfl, bond := rfl, bondDenom := rfl,
          notBootstrap := by simp, bankOther := hbk, records := Or.inr ⟨rfl, fun _ _ => rfl⟩ }⟩)
    · exact Or.inl (Except.ok.inj h).symm      -- bootstrapping and not yet due
  · unfold endBlockDapp at h
    rw [if_neg (fun hc => hst hc.1)] at h
    by_cases h1 : d.status = 1
    · dsimp only at h
      split at h
      · cases h                 -- the post-mint panics
      · rename_i s2 d2 hpm
        obtain rfl := Except.ok.inj h
        rcases postMint_ok hpm with ⟨rfl, rfl⟩ | ⟨rfl, bk, rfl, hbk⟩
        · -- no post-mint due
          rcases liquidate_eq s2 t d2 with hl | hl <;> rw [hl]
          · exact Or.inl rfl                   -- and no halt: nothing happens
          · exact Or.inr (Or.inr ⟨_, {         -- halt
              P := rfl, addr := rfl, dapps := rfl, name := rfl, bond := rfl, bondDenom := rfl,
              notBootstrap := by simp, bankOther := fun _ _ _ => rfl, records := Or.inl ⟨rfl, rfl⟩ }⟩)
        · -- the post-mint is paid
          rcases liquidate_eq { s with bank := bk, dapps := setDapp s.dapps { d with postMintPaid := true } } t
            { d with postMintPaid := true } with hl | hl <;> rw [hl]
          · exact Or.inr (Or.inr ⟨_, {         -- and no halt
              P := rfl, addr := rfl, dapps := rfl, name := rfl, bond := rfl, bondDenom := rfl,
              notBootstrap := by simp [h1], bankOther := hbk, records := Or.inl ⟨rfl, rfl⟩ }⟩)
          · -- and halt: the two `SetDapp`s under the one name are one
            exact Or.inr (Or.inr ⟨{ d with postMintPaid := true, status := 3 }, {
              P := rfl, addr := rfl, dapps := setDapp_setDapp _ rfl, name := rfl, bond := rfl, bondDenom := rfl,
              notBootstrap := by simp, bankOther := hbk, records := Or.inl ⟨rfl, rfl⟩ }⟩)
    · simp only [postMint_of_not_active h1, liquidate_of_not_active h1] at h
      exact Or.inl (Except.ok.inj h).symm      -- paused or halted: the loop passes it by

theorem endBlockDapp_frame {s s' : St} {t : Nat} {d : Dapp} (h : endBlockDapp s t d = .ok s') : s'.P = s.P ∧ s'.addr = s.addr := by
  rcases endBlockDapp_cases h with rfl | ⟨_, s1, hs1, rfl⟩ | ⟨r, hr⟩
  · exact ⟨rfl, rfl⟩
  · exact ⟨(refundLoop_some hs1).P, (refundLoop_some hs1).addr⟩
  · exact ⟨hr.P, hr.addr⟩

/-- `I σ l`: the state `σ` reached, and the snapshot records `l` still to visit -/
theorem endBlockLoop_induct {t : Nat} {I : St → List Dapp → Prop}
    (hstep : ∀ {σ σ' d rest}, I σ (d :: rest) → endBlockDapp σ t d = .ok σ' → I σ' rest) :
    ∀ (l : List Dapp) {s s' : St}, I s l → endBlockLoop s t l = .ok s' → I s' [] := by
  intro l s s' hI h
  fun_induction endBlockLoop s t l with
  | case1 => cases h; exact hI                                  -- the snapshot is exhausted
  | case2 s d rest s1 hs1 ih => exact ih (hstep hI hs1) h       -- one iteration went through, on with `rest`
  | case3 => cases h                                            -- an iteration panics

theorem upsertDapp_ok {s s' : St} {p : Dapp} (h : upsertDapp s p = .ok s') : s' = { s with dapps := setDapp s.dapps p } := by
  revert h
  fun_cases upsertDapp s p <;> try (intro h; cases h; done)
  next => intro h; exact (Except.ok.inj h).symm      -- the dApp exists and the bond-verifier flag is not switched off

theorem xfer_ok {s s' : St} {src dst : Nat} {den : Bytes} {amt : Int} (h : apply s (.xfer src dst den amt) = .ok s') :
    ∃ bk, s' = { s with bank := bk } ∧ ∀ d', bk.bal .l2 d' = s.bank.bal .l2 d' := by
  simp only [apply] at h
  split at h
  · rename_i bk hbk       -- the bank moves the coins between the two users
    refine ⟨bk, (Except.ok.inj h).symm, fun d' => ?_⟩
    obtain ⟨_, _, _, rfl⟩ := send_some hbk
    simp [addBal_bal]
  · cases h               -- the bank refuses

def Op.isLpMsg : Op → Bool
  | .msgRedeem .. | .msgSwap .. | .msgConvert .. => true
  | _ => false

/-- the LP message handlers as coded (inverted existence test) fail in every state -/
theorem lpMsg_error (s : St) {op : Op} (h : op.isLpMsg = true) : ∃ e, apply s op = .error e := by
  cases op with
  | msgRedeem name lpDen =>
    show ∃ e, msgRedeem s name lpDen = .error e
    fun_cases msgRedeem s name lpDen <;> exact ⟨_, rfl⟩
  | msgSwap name =>
    show ∃ e, msgSwap s name = .error e
    fun_cases msgSwap s name <;> exact ⟨_, rfl⟩
  | msgConvert name =>
    show ∃ e, msgConvert s name = .error e
    fun_cases msgConvert s name <;> exact ⟨_, rfl⟩
  | _ => cases h

theorem lpMsg_not_ok {s s' : St} {op : Op} (h : apply s op = .ok s') (hop : op.isLpMsg = true) : False := by
  obtain ⟨e, he⟩ := lpMsg_error s hop
  rw [he] at h
  cases h

theorem step_cases {I : St → Prop} {s : St} {op : Op} (h0 : I s) (h : ∀ s', apply s op = .ok s' → I s') : I (step s op) := by
  unfold step
  split
  · rename_i s' hs'; exact h s' hs'       -- the operation went through
  · exact h0                              -- it failed: baseapp's cache leaves no trace

/-- no case for the three LP messages: they never succeed (`lpMsg_error`) -/
theorem apply_cases {s : St} {motive : Op → St → Prop}
    (create : ∀ {t u perm d den amt s' r nb μ}, BondStep s s' u amt μ r nb → r.bond = amt →
      ((perm = true → 0 ≤ amt) → μ = amt) → motive (.create t u perm d den amt) s')
    (bond : ∀ {u name den amt s' r nb}, BondStep s s' u amt amt r nb → r.bond ≤ (s.P.maxBond : Int) * million →
      motive (.bond u name den amt) s')
    (reclaim : ∀ {u name den amt s' r nb}, BondStep s s' u (-amt) (-amt) r nb → 0 < amt → motive (.reclaim u name den amt) s')
    (block : ∀ {t s'}, endBlock s t = .ok s' → motive (.endBlock t) s')
    (upsert : ∀ {p}, motive (.upsert p) { s with dapps := setDapp s.dapps p })
    (xfer : ∀ {src dst den amt bk}, (∀ d', bk.bal .l2 d' = s.bank.bal .l2 d') → motive (.xfer src dst den amt) { s with bank := bk })
    {op : Op} {s' : St} (h : apply s op = .ok s') : motive op s' := by
  cases op with
  | create t u perm d den amt => obtain ⟨_, _, _, hs, hb, hμ⟩ := createDapp_bondStep h; exact create hs hb hμ
  | bond u name den amt => obtain ⟨_, _, hs, hb⟩ := bondDapp_bondStep h; exact bond hs hb
  | reclaim u name den amt => obtain ⟨_, _, hs, hpos⟩ := reclaimDapp_bondStep h; exact reclaim hs hpos
  | endBlock t => exact block h
  | upsert p => rw [upsertDapp_ok h]; exact upsert
  | xfer src dst den amt => obtain ⟨bk, rfl, hbk⟩ := xfer_ok h; exact xfer hbk
  | _ => exact (lpMsg_not_ok h rfl).elim

theorem step_frame (s : St) (op : Op) : (step s op).P = s.P ∧ (step s op).addr = s.addr :=
  step_cases (I := fun σ => σ.P = s.P ∧ σ.addr = s.addr) ⟨rfl, rfl⟩ fun _ h =>
    apply_cases (motive := fun _ s' => s'.P = s.P ∧ s'.addr = s.addr)
      (create := fun hs _ _ => ⟨hs.P, hs.addr⟩) (bond := fun hs _ => ⟨hs.P, hs.addr⟩) (reclaim := fun hs _ => ⟨hs.P, hs.addr⟩)
      (block := endBlockLoop_induct (I := fun σ _ => σ.P = s.P ∧ σ.addr = s.addr)
        (fun hI h => ⟨(endBlockDapp_frame h).1.trans hI.1, (endBlockDapp_frame h).2.trans hI.2⟩) _ ⟨rfl, rfl⟩)
      (upsert := ⟨rfl, rfl⟩) (xfer := fun _ => ⟨rfl, rfl⟩) h

theorem run_frame (ops : List Op) (s : St) : (run s ops).P = s.P ∧ (run s ops).addr = s.addr :=
  List.foldlRecOn (motive := fun σ => σ.P = s.P ∧ σ.addr = s.addr) ops step ⟨rfl, rfl⟩ fun σ h op _ =>
    ⟨(step_frame σ op).1.trans h.1, (step_frame σ op).2.trans h.2⟩

end Sekai.Layer2
