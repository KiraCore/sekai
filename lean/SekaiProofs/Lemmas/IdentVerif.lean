import SekaiProofs.Lemmas.IdentOps
/-! What the keeper functions do to single records (`getRec`, id by id), in EVERY state (no well-formedness needed):
an edit resets the verifier list, a deletion removes exactly the records it selects, verifier lists grow only in the
approve loop of `HandleIdentityRecordsVerifyRequest`, a rotation re-addresses the records of the old address and
lower-cases their keys. -/
namespace Sekai.Ident

/-- no verifier appears on any record between `S` and `S'` -/
def NoGrow (S S' : State) : Prop :=
  ∀ id r', getRec S' id = some r' → ∀ u ∈ r'.verifiers, ∃ r, getRec S id = some r ∧ u ∈ r.verifiers

/-- a record of `S'` that is not literally the record `S` has under that id carries no verifier -/
def ResetOnChange (S S' : State) : Prop :=
  ∀ id r', getRec S' id = some r' → getRec S id = some r' ∨ r'.verifiers = []

theorem ResetOnChange.refl (S : State) : ResetOnChange S S := fun _ _ h => Or.inl h
theorem ResetOnChange.trans {A B C : State} (h1 : ResetOnChange A B) (h2 : ResetOnChange B C) : ResetOnChange A C := by
  intro id r' hr'
  rcases h2 id r' hr' with hB | he
  · exact h1 id r' hB
  · exact Or.inr he
theorem ResetOnChange.of_recs {S S' : State} (h : S'.records = S.records) : ResetOnChange S S' :=
  fun id r' hr' => Or.inl (by rw [← getRec_congr h]; exact hr')

theorem ResetOnChange.noGrow {S S' : State} (h : ResetOnChange S S') : NoGrow S S' := by
  intro id r' hr' u hu
  rcases h id r' hr' with h0 | he
  · exact ⟨r', h0, hu⟩
  · rw [he] at hu; cases hu

theorem NoGrow.of_recs {S S' : State} (h : S'.records = S.records) : NoGrow S S' := (ResetOnChange.of_recs h).noGrow

theorem putRecord_resetOnChange {S : State} {r : Record} (hv : r.verifiers = []) : ResetOnChange S (putRecord S r) := by
  intro id r' hr'
  rw [getRec_putRecord] at hr'
  split at hr'
  · right; cases hr'; exact hv
  · left; exact hr'

theorem regApply_resetOnChange {a : Nat} {infos : List Info} {S S' : State} {aff aff' : List Nat}
    (h : regApply a infos S aff = some (S', aff')) : ResetOnChange S S' :=
  regApply_rel ResetOnChange.refl ResetOnChange.trans
    (fun {S _} n _ _ _ => (ResetOnChange.of_recs (S' := { S with lastRecordId := n }) rfl).trans (putRecord_resetOnChange rfl)) h

theorem registerRecords_resetOnChange {S S' : State} {a : Nat} {infos : List Info}
    (hr : registerRecords S a infos = some S') : ResetOnChange S S' := by
  obtain ⟨_, S1, aff, _, ha, hc⟩ := registerRecords_some hr
  exact (regApply_resetOnChange ha).trans (ResetOnChange.of_recs (cancelInvalid_recFrame hc).records)

theorem deleteLoop_spec {ids : List Nat} {S S' : State} (hd : deleteLoop ids S = some S') :
    S'.idx = S.idx ∧ S'.lastRecordId = S.lastRecordId ∧
    (∀ id, getRec S' id = if id ∈ ids then none else getRec S id) ∧ (∀ x ∈ S'.records, x ∈ S.records) := by
  induction ids generalizing S with
  | nil => cases hd; exact ⟨rfl, rfl, fun _ => by simp, fun _ h => h⟩
  | cons d rest ih =>
    obtain ⟨i1, l1, g1, m1⟩ := ih (deleteLoop_cons hd)
    rw [deleteRecordById_eq] at i1 l1
    refine ⟨i1, l1, ?_, fun x hx => (mem_delete (m1 x hx)).1⟩
    intro id
    rw [g1 id, getRec_delete]
    by_cases h1 : id ∈ rest
    · simp [h1]
    · by_cases h2 : d = id
      · simp [h2]
      · have : id ≠ d := fun e => h2 e.symm
        simp [h1, h2, this]

theorem deleteRecords_getRec {S S' : State} {a : Nat} {keys : List String} (hd : deleteRecords S a keys = some S') (id : Nat) :
    getRec S' id = if id ∈ (S.idx.filter (delSel a keys)).map (·.id) then none else getRec S id := by
  obtain ⟨_, S2, hl, hc⟩ := deleteRecords_some hd
  rw [(cancelInvalid_recFrame hc).getRec, (deleteLoop_spec hl).2.2.1 id]
  rfl

theorem deleteRecords_sub {S S' : State} {a : Nat} {keys : List String} (hd : deleteRecords S a keys = some S')
    (id : Nat) (r' : Record) (hr' : getRec S' id = some r') : getRec S id = some r' := by
  rw [deleteRecords_getRec hd] at hr'
  split at hr'
  · cases hr'
  · exact hr'

theorem approveLoop_grow {v : Nat} {ids : List Nat} {S S' : State} (ha : approveLoop v ids S = some S') :
    ∀ id r', getRec S' id = some r' → ∀ u ∈ r'.verifiers,
      (∃ r, getRec S id = some r ∧ u ∈ r.verifiers) ∨ (u = v ∧ id ∈ ids) := by
  refine approveLoop_rel (R := fun A B => ∀ id r', getRec B id = some r' → ∀ u ∈ r'.verifiers,
      (∃ r, getRec A id = some r ∧ u ∈ r.verifiers) ∨ (u = v ∧ id ∈ ids))
    (fun _ _ r' hr' _ hu => Or.inl ⟨r', hr', hu⟩) ?_ ?_ ha
  · intro A B C f g id r' hr' u hu
    rcases g id r' hr' u hu with ⟨r1, h1, hu1⟩ | h
    · exact f id r1 h1 u hu1
    · exact Or.inr h
  · intro S S1 id r hin hr hs id' r' hr' u hu
    obtain ⟨_, _, rfl⟩ := setRecord_some hs
    rw [getRec_putRecord] at hr'
    split at hr'
    · rename_i e
      cases hr'
      have e' : id = id' := (getRec_mem hr).2.symm.trans e
      rcases List.mem_append.mp hu with hu | hu
      · left; rw [← e']; exact ⟨r, hr, hu⟩
      · right; exact ⟨List.mem_singleton.mp hu, by rw [← e']; exact hin⟩
    · exact Or.inl ⟨r', hr', hu⟩

theorem handleVerify_grow {S S' : State} {v reqId : Nat} {yes : Bool} (hh : handleVerify S v reqId yes = some S') :
    ∀ id r', getRec S' id = some r' → ∀ u ∈ r'.verifiers,
      (∃ r, getRec S id = some r ∧ u ∈ r.verifiers) ∨
      (u = v ∧ yes = true ∧ ∃ q, getReq S reqId = some q ∧ q.verifier = v ∧ id ∈ q.recordIds) := by
  obtain ⟨q, S1, S2, fresh, hd⟩ := handleVerify_some hh
  have f1 := payTip_recFrame hd.paid
  intro id r' hr' u hu
  rw [hd.state, (deleteReq_recFrame _ _).getRec] at hr'
  rcases hd.approved with ⟨_, rfl⟩ | ⟨hy, ha⟩
  · rw [f1.getRec] at hr'; exact Or.inl ⟨r', hr', hu⟩
  · rcases approveLoop_grow ha id r' hr' u hu with ⟨r1, h1, hu1⟩ | ⟨h1, hin⟩
    · rw [f1.getRec] at h1; exact Or.inl ⟨r1, h1, hu1⟩
    · exact Or.inr ⟨h1, (Bool.and_eq_true_iff.mp hy).1, q, hd.pending, hd.verifier, hin⟩

/-- what the rotation writes for `r` -/
def retarget (new : Nat) (r : Record) : Record := { r with addr := new, key := lower r.key }

/-- the record-moving loop (twin: `Recovery.moveRecords_spec`). `g`: the lookups of the state the whole loop STARTED from, in
which the records still to move are found; it is what makes two entries of `recs` with one id the same record. -/
theorem moveRecords_spec {new : Nat} {g : Nat → Option Record} {recs : List Record} (hg : ∀ r ∈ recs, g r.id = some r)
    {S S' : State} (hm : moveRecords new recs S = some S') (id : Nat) :
    getRec S' id = if id ∈ recs.map (·.id) then (g id).map (retarget new) else getRec S id := by
  induction recs generalizing S with
  | nil => cases hm; rfl
  | cons r rest ih =>
    obtain ⟨S1, hs, hm⟩ := moveRecords_cons hm
    obtain ⟨_, _, rfl⟩ := setRecord_some hs
    rw [ih (fun x hx => hg x (List.mem_cons_of_mem _ hx)) hm, getRec_putRecord, getRec_delete]
    simp only [List.map_cons, List.mem_cons]
    by_cases h1 : id ∈ rest.map (·.id)
    · rw [if_pos h1, if_pos (.inr h1)]
    · by_cases h2 : r.id = id
      · rw [if_neg h1, if_pos h2, if_pos (.inl h2.symm), ← h2, hg r List.mem_cons_self]; rfl
      · rw [if_neg h1, if_neg h2, if_neg h2, if_neg (fun hh => hh.elim (fun e => h2 e.symm) h1)]

/-- a dangling entry in the old address's index is a panic, hence the first conjunct. Twin on the recovery model's own copy of
the loop: `Recovery.moveIdentity_spec` (Lemmas/RecoveryIdentity.lean); a change to `SetIdentityRecord` or
`DeleteIdentityRecordById` concerns both -/
theorem rotate_getRec {S S' : State} {p old new : Nat} {ok : Bool} (hr : rotate S p old new ok = some S') :
    (∀ id ∈ idsOf S old, ∃ r, getRec S id = some r) ∧
    ∀ id, getRec S' id = if id ∈ idsOf S old then (getRec S id).map (retarget new) else getRec S id := by
  obtain ⟨S1, recs, S3, qs1, qs2, hd⟩ := rotate_some hr
  have f1 := rotateChecks_recFrame hd.checks
  obtain ⟨hids, hget⟩ := collectRecs_spec hd.collected
  have e1 : idsOf S old = recs.map (·.id) := by rw [hids, idsOf, idsOf, f1.idx]
  rw [e1]
  constructor
  · intro id hin
    obtain ⟨r, hrm, rfl⟩ := List.mem_map.mp hin
    exact ⟨r, by rw [← f1.getRec]; exact hget r hrm⟩
  · intro id
    rw [hd.state, (rotateTail_recFrame _ _ qs1 qs2 S3 old new).getRec, ← f1.getRec,
      moveRecords_spec hget hd.moved id]

theorem rotate_noGrow {S S' : State} {p o n : Nat} {ok : Bool} (hr : rotate S p o n ok = some S') : NoGrow S S' := by
  intro id r' hr' u hu
  rw [(rotate_getRec hr).2 id] at hr'
  split at hr'
  · cases hS : getRec S id with
    | none => rw [hS] at hr'; cases hr'
    | some r => rw [hS] at hr'; cases hr'; exact ⟨r, rfl, hu⟩
  · exact ⟨r', hr', hu⟩

end Sekai.Ident
