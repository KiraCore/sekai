import Sekai.Model.MultiStake
/-! Lemmas about the additive association lists and the bank of `Sekai.Model.MultiStake`: what `get` and a balance read after
each operation, as an equation in the amounts; the inversions of the bank's `send` / `burn`, and when a subtraction or a send
succeeds. -/
namespace Sekai.MultiStake
open Sekai

namespace AMap
variable {K : Type} [DecidableEq K]

@[simp] theorem get_nil (k : K) : get ([] : AMap K) k = 0 := rfl

theorem get_cons (k' : K) (n : Nat) (r : AMap K) (k : K) :
    get ((k', n) :: r) k = (if k' = k then n else 0) + get r k := rfl

theorem get_append (a b : AMap K) (k : K) : get (a ++ b) k = get a k + get b k := by
  induction a with
  | nil => simp
  | cons x r ih => obtain ⟨k', n⟩ := x; simp [get_cons, ih]; omega

theorem get_add1 (m : AMap K) (k k' : K) (n : Nat) :
    get (add1 m k n) k' = get m k' + (if k = k' then n else 0) := by
  induction m with
  | nil => simp [add1, get_cons]
  | cons x r ih =>
    obtain ⟨k0, m0⟩ := x
    unfold add1
    by_cases h : k0 = k
    · subst h; simp only [if_true, get_cons]; split <;> omega
    · simp only [h, if_false, get_cons, ih]; omega

theorem get_addAll (m kvs : AMap K) (k : K) : get (addAll m kvs) k = get m k + get kvs k := by
  induction kvs generalizing m with
  | nil => simp [addAll]
  | cons x r ih =>
    obtain ⟨k0, n0⟩ := x
    simp only [addAll, ih, get_add1, get_cons]; omega

theorem get_take (m : AMap K) (k k' : K) (n : Nat) :
    get (take m k n) k' = get m k' - (if k = k' then n else 0) := by
  induction m generalizing n with
  | nil => rw [take, get]; exact (Nat.zero_sub _).symm
  | cons x r ih =>
    obtain ⟨k0, m0⟩ := x
    by_cases hk : k0 = k
    · subst hk
      rw [take, if_pos rfl, get_cons, get_cons, ih]
      by_cases hk' : k0 = k'
      · -- the entry gives `m0 - n`, the rest of the list what is left of `n`
        rw [if_pos hk', if_pos hk', if_pos hk', if_pos hk']
        rcases Nat.le_total n m0 with h | h
        · rw [Nat.sub_eq_zero_of_le h, Nat.sub_zero, Nat.sub_add_comm h]
        · rw [Nat.sub_eq_zero_of_le h, Nat.zero_add, ← Nat.sub_sub_sub_cancel_right h, Nat.add_sub_cancel_left]
      · rw [if_neg hk', if_neg hk', if_neg hk', if_neg hk']; rfl
    · rw [take, if_neg hk, get_cons, get_cons, ih]
      by_cases hk' : k = k'
      · rw [if_pos hk', if_neg (hk' ▸ hk), Nat.zero_add, Nat.zero_add]
      · rw [if_neg hk']; rfl

theorem get_sub1 {m m' : AMap K} {k : K} {n : Nat} (h : sub1? m k n = some m') (k' : K) :
    get m' k' + (if k = k' then n else 0) = get m k' := by
  unfold sub1? at h
  split at h
  · cases h
  · cases h
    rw [get_take]
    split
    · rename_i e; subst e; omega
    · omega

theorem get_subAll {m m' kvs : AMap K} (h : subAll? m kvs = some m') (k : K) :
    get m' k + get kvs k = get m k := by
  induction kvs generalizing m with
  | nil => cases h; rfl
  | cons x r ih =>
    obtain ⟨k0, n0⟩ := x
    unfold subAll? at h
    split at h
    · cases h
    · rename_i m1 h1
      have := ih h
      have h2 := get_sub1 h1 k
      simp only [get_cons]; omega

theorem subAll_of_ge (m kvs : AMap K) (h : ∀ k, get kvs k ≤ get m k) : ∃ m', subAll? m kvs = some m' := by
  induction kvs generalizing m with
  | nil => exact ⟨m, rfl⟩
  | cons x r ih =>
    obtain ⟨k0, n0⟩ := x
    have h0 := h k0
    simp only [get_cons, if_true] at h0
    have hs : sub1? m k0 n0 = some (take m k0 n0) := if_neg (by omega)
    have hr : ∀ k, get r k ≤ get (take m k0 n0) k := by
      intro k
      have := h k
      rw [get_cons] at this
      rw [get_take]
      omega
    obtain ⟨m', hm'⟩ := ih (take m k0 n0) hr
    exact ⟨m', by unfold subAll?; rw [hs]; exact hm'⟩

theorem get_filter_key (p : K → Bool) (m : AMap K) (k : K) :
    get (m.filter (fun kv => p kv.1)) k = if p k then get m k else 0 := by
  induction m with
  | nil => simp
  | cons x r ih =>
    obtain ⟨k1, n1⟩ := x
    rw [List.filter_cons]
    by_cases h1 : k1 = k
    · subst h1; split <;> simp [get_cons, *]
    · split <;> simp [get_cons, *]

theorem get_nz (m : AMap K) (k : K) : get (nz m) k = get m k := by
  induction m with
  | nil => rfl
  | cons x r ih =>
    obtain ⟨k1, n1⟩ := x
    unfold nz at ih ⊢
    by_cases h : n1 = 0
    · subst h
      rw [List.filter_cons_of_neg (by simp), ih, get_cons]; simp
    · rw [List.filter_cons_of_pos (by simp [h]), get_cons, get_cons, ih]

end AMap

open AMap

theorem get_keyed (a a' : Acct) (c : Coins) (d : Denom) :
    get (keyed a c) (a', d) = if a = a' then get c d else 0 := by
  induction c with
  | nil => simp [keyed]
  | cons x r ih =>
    obtain ⟨d0, n0⟩ := x
    simp only [keyed, get_cons, ih]
    by_cases ha : a = a'
    · subst ha; by_cases hd : d0 = d <;> simp [hd]
    · have : ¬ ((a, d0) = (a', d)) := fun e => ha (by injection e)
      simp [ha, this]

theorem get_ukex_of_share {d : Denom} (hd : d.pool ≠ 0) (n : Nat) : get [(ukex, n)] d = 0 := by
  have : ¬ ukex = d := fun e => hd (e ▸ rfl)
  rw [get_cons, if_neg this]; rfl

/-- how `SlashStakingPool` splits what it takes off a pool: the default-denom coin is burnt, the rest goes to the fee collector -/
theorem get_ukex_add_rest (m : Coins) (d : Denom) :
    get [(ukex, get m ukex)] d + get ((nz m).filter (fun dn => dn.1 ≠ ukex)) d = get m d := by
  rw [get_filter_key (fun k => decide (k ≠ ukex)), get_nz, get_cons]
  by_cases hd : ukex = d
  · subst hd; simp
  · have : d ≠ ukex := fun e => hd e.symm
    simp [hd, this]

namespace Bank

theorem send_some {b b' : Bank} {src dst : Acct} {c : Coins} (h : b.send src dst c = some b') :
    ∃ bal', subAll? b.bal (keyed src c) = some bal' ∧ b' = { b with bal := addAll bal' (keyed dst c) } := by
  unfold send at h
  split at h
  · cases h
  · rename_i bal' h1; cases h; exact ⟨bal', h1, rfl⟩

theorem burn_some {b b' : Bank} {src : Acct} {c : Coins} (h : b.burn src c = some b') :
    ∃ bal' sup', subAll? b.bal (keyed src c) = some bal' ∧ subAll? b.supply c = some sup' ∧
      b' = { bal := bal', supply := sup' } := by
  unfold burn at h
  split at h
  · cases h
  · rename_i bal' h1
    split at h
    · cases h
    · rename_i sup' h2; cases h; exact ⟨bal', sup', h1, h2, rfl⟩

theorem send_supply {b b' : Bank} {src dst : Acct} {c : Coins} (h : b.send src dst c = some b') :
    b'.supply = b.supply := by
  obtain ⟨_, _, rfl⟩ := send_some h; rfl

theorem send_bal {b b' : Bank} {src dst : Acct} {c : Coins} (h : b.send src dst c = some b') (a : Acct) (d : Denom) :
    b'.balance a d + (if src = a then get c d else 0) = b.balance a d + (if dst = a then get c d else 0) := by
  obtain ⟨bal', h1, rfl⟩ := send_some h
  have h2 := get_subAll h1 (a, d)
  simp only [balance, get_addAll, get_keyed] at h2 ⊢
  omega

theorem send_bal_src {b b' : Bank} {src dst : Acct} {c : Coins} (h : b.send src dst c = some b') (hne : src ≠ dst) (d : Denom) :
    b'.balance src d + get c d = b.balance src d := by
  have := send_bal h src d
  rw [if_pos rfl, if_neg fun e => hne e.symm] at this
  exact this

theorem send_bal_dst {b b' : Bank} {src dst : Acct} {c : Coins} (h : b.send src dst c = some b') (hne : src ≠ dst) (d : Denom) :
    b'.balance dst d = b.balance dst d + get c d := by
  have := send_bal h dst d
  rw [if_neg hne, if_pos rfl] at this
  exact this

theorem send_bal_other {b b' : Bank} {src dst a : Acct} {c : Coins} (h : b.send src dst c = some b') (hs : src ≠ a)
    (hd : dst ≠ a) (d : Denom) : b'.balance a d = b.balance a d := by
  have := send_bal h a d
  rw [if_neg hs, if_neg hd] at this
  exact this

theorem send_of_ge (b : Bank) (src dst : Acct) (c : Coins) (h : ∀ d, get c d ≤ b.balance src d) :
    ∃ b', b.send src dst c = some b' := by
  have : ∀ k, get (keyed src c) k ≤ get b.bal k := by
    intro k
    obtain ⟨a, d⟩ := k
    rw [get_keyed]
    split
    · rename_i e; subst e; exact h d
    · exact Nat.zero_le _
  obtain ⟨m', hm'⟩ := subAll_of_ge b.bal (keyed src c) this
  exact ⟨_, by unfold send; rw [hm']⟩

theorem mint_supply (b : Bank) (dst : Acct) (c : Coins) (d : Denom) :
    get (b.mint dst c).supply d = get b.supply d + get c d := by
  simp [mint, get_addAll]

theorem mint_bal (b : Bank) (dst : Acct) (c : Coins) (a : Acct) (d : Denom) :
    (b.mint dst c).balance a d = b.balance a d + (if dst = a then get c d else 0) := by
  simp [mint, balance, get_addAll, get_keyed]

theorem mint_bal_other (b : Bank) (dst : Acct) (c : Coins) {a : Acct} (h : dst ≠ a) (d : Denom) :
    (b.mint dst c).balance a d = b.balance a d := by
  rw [mint_bal, if_neg h]; rfl

theorem burn_supply {b b' : Bank} {src : Acct} {c : Coins} (h : b.burn src c = some b') (d : Denom) :
    get b'.supply d + get c d = get b.supply d := by
  obtain ⟨_, _, _, h2, rfl⟩ := burn_some h
  exact get_subAll h2 d

theorem burn_bal {b b' : Bank} {src : Acct} {c : Coins} (h : b.burn src c = some b') (a : Acct) (d : Denom) :
    b'.balance a d + (if src = a then get c d else 0) = b.balance a d := by
  obtain ⟨_, _, h1, _, rfl⟩ := burn_some h
  have := get_subAll h1 (a, d)
  simp only [balance, get_keyed] at this ⊢
  exact this

theorem burn_bal_src {b b' : Bank} {src : Acct} {c : Coins} (h : b.burn src c = some b') (d : Denom) :
    b'.balance src d + get c d = b.balance src d := by
  have := burn_bal h src d
  rw [if_pos rfl] at this
  exact this

theorem burn_bal_other {b b' : Bank} {src a : Acct} {c : Coins} (h : b.burn src c = some b') (hs : src ≠ a) (d : Denom) :
    b'.balance a d = b.balance a d := by
  have := burn_bal h a d
  rw [if_neg hs] at this
  exact this

end Bank
end Sekai.MultiStake
