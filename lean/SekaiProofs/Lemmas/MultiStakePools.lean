import SekaiProofs.Lemmas.MultiStakeMap
/-! The pool list and the undelegation list as the invariants read them: `Distinct` records, the sums `stakeSum` and `undelSum`,
where `setPool` puts a record (`setPool_new`, `setPool_found`: the decomposition of the list, in place of `findPool`-after-`setPool`
equations) and what that does to membership, distinctness and the stake sum, and what the filter of a claim and the loop of `ClaimMaturedUndelegations` do to the undelegation sum. -/
namespace Sekai.MultiStake
open Sekai AMap

/-- two pool records differ in validator AND in id (a binary relation: the invariant asks it `Pairwise` of the pool list) -/
def Distinct (p q : Pool) : Prop := p.val ≠ q.val ∧ p.id ≠ q.id

theorem Distinct.symm {p q : Pool} (h : Distinct p q) : Distinct q p := ⟨fun e => h.1 e.symm, fun e => h.2 e.symm⟩

theorem findPool_mem {s : St} {v : Nat} {p : Pool} (h : findPool s v = some p) : p ∈ s.pools ∧ p.val = v := by
  unfold findPool at h
  refine ⟨List.mem_of_find?_eq_some h, ?_⟩
  have := List.find?_some h
  simpa using this

theorem setPool_append {l : List Pool} {p' : Pool} (h : ∀ q ∈ l, q.val ≠ p'.val) (rest : List Pool) :
    setPool (l ++ rest) p' = l ++ setPool rest p' := by
  induction l with
  | nil => rfl
  | cons x r ih =>
    rw [List.cons_append, setPool, if_neg (h x List.mem_cons_self), ih fun q hq => h q (List.mem_cons_of_mem _ hq)]
    rfl

theorem setPool_new {s : St} {p' : Pool} (hf : findPool s p'.val = none) : setPool s.pools p' = s.pools ++ [p'] := by
  have := setPool_append (l := s.pools) (p' := p') (fun q hq => by simpa using List.find?_eq_none.mp hf q hq) []
  rwa [List.append_nil] at this

theorem setPool_found {s : St} {v : Nat} {p p' : Pool} (hf : findPool s v = some p) (hv : p'.val = v) :
    ∃ l r, s.pools = l ++ p :: r ∧ setPool s.pools p' = l ++ p' :: r := by
  obtain ⟨hpv, l, r, hs, hl⟩ := List.find?_eq_some_iff_append.mp hf
  refine ⟨l, r, hs, ?_⟩
  rw [hs, setPool_append (fun q hq => by simpa [hv] using hl q hq), setPool, if_pos (by simpa [hv] using hpv)]

theorem mem_setPool_self {ps : List Pool} {p' : Pool} : p' ∈ setPool ps p' := by
  induction ps with
  | nil => simp [setPool]
  | cons x r ih =>
    unfold setPool
    split
    · exact List.mem_cons_self
    · exact List.mem_cons_of_mem _ ih

theorem mem_setPool_sub {ps : List Pool} {p' q : Pool} (hq : q ∈ setPool ps p') : q = p' ∨ q ∈ ps := by
  induction ps with
  | nil => exact Or.inl (List.mem_singleton.mp hq)
  | cons x r ih =>
    unfold setPool at hq
    split at hq
    · exact (List.mem_cons.mp hq).imp id (List.mem_cons_of_mem _)
    · rcases List.mem_cons.mp hq with h | h
      · exact Or.inr (h ▸ List.mem_cons_self)
      · exact (ih h).imp id (List.mem_cons_of_mem _)

theorem mem_setPool {s : St} {v : Nat} {p p' q : Pool} (hf : findPool s v = some p) (hd : s.pools.Pairwise Distinct)
    (hv : p'.val = v) (hq : q ∈ setPool s.pools p') : q = p' ∨ (q ∈ s.pools ∧ Distinct p q) := by
  obtain ⟨l, r, hs, he⟩ := setPool_found hf hv
  rw [he] at hq
  rw [hs, List.pairwise_append, List.pairwise_cons] at hd
  rw [hs]
  rcases List.mem_append.mp hq with h | h
  · exact Or.inr ⟨List.mem_append_left _ h, (hd.2.2 q h p List.mem_cons_self).symm⟩
  · rcases List.mem_cons.mp h with h | h
    · exact Or.inl h
    · exact Or.inr ⟨List.mem_append_right _ (List.mem_cons_of_mem _ h), hd.2.1.1 q h⟩

theorem pairwise_setPool {s : St} {v : Nat} {p p' : Pool} (hf : findPool s v = some p) (hv : p'.val = p.val)
    (hi : p'.id = p.id) (hd : s.pools.Pairwise Distinct) : (setPool s.pools p').Pairwise Distinct := by
  obtain ⟨l, r, hs, he⟩ := setPool_found hf (hv.trans (findPool_mem hf).2)
  have hp' : ∀ q, Distinct q p → Distinct q p' := fun q h => ⟨by rw [hv]; exact h.1, by rw [hi]; exact h.2⟩
  rw [hs, List.pairwise_append, List.pairwise_cons] at hd
  rw [he, List.pairwise_append, List.pairwise_cons]
  refine ⟨hd.1, ⟨fun q hq => (hp' q (hd.2.1.1 q hq).symm).symm, hd.2.1.2⟩, fun a ha b hb => ?_⟩
  rcases List.mem_cons.mp hb with rfl | hb
  · exact hp' a (hd.2.2 a ha p List.mem_cons_self)
  · exact hd.2.2 a ha b (List.mem_cons_of_mem _ hb)

def stakeSum : List Pool → Denom → Nat
  | [], _ => 0
  | p :: r, d => get p.stake d + stakeSum r d

def undelSum : List Undel → Denom → Nat
  | [], _ => 0
  | u :: r, d => get u.amount d + undelSum r d

theorem stakeSum_append (a b : List Pool) (d : Denom) : stakeSum (a ++ b) d = stakeSum a d + stakeSum b d := by
  induction a with
  | nil => simp [stakeSum]
  | cons x r ih => simp [stakeSum, ih]; omega

theorem stakeSum_setPool {s : St} {v : Nat} {p p' : Pool} (hf : findPool s v = some p) (hv : p'.val = v) (d : Denom) :
    stakeSum (setPool s.pools p') d + get p.stake d = stakeSum s.pools d + get p'.stake d := by
  obtain ⟨l, r, hs, he⟩ := setPool_found hf hv
  rw [he, hs, stakeSum_append, stakeSum_append]
  simp only [stakeSum]; omega

theorem undelSum_append (a b : List Undel) (d : Denom) : undelSum (a ++ b) d = undelSum a d + undelSum b d := by
  induction a with
  | nil => simp [undelSum]
  | cons x r ih => simp [undelSum, ih]; omega

theorem undelSum_filter_le (q : Undel → Bool) (us : List Undel) (d : Denom) :
    undelSum (us.filter q) d ≤ undelSum us d := by
  induction us with
  | nil => exact Nat.le_refl _
  | cons x r ih => rw [List.filter_cons]; split <;> simp only [undelSum] <;> omega

theorem undelSum_filter {us : List Undel} {id : Nat} {u : Undel}
    (hf : us.find? (fun u => u.id == id) = some u) (d : Denom) :
    undelSum (us.filter (fun u => u.id != id)) d + get u.amount d ≤ undelSum us d := by
  obtain ⟨hu, l, r, rfl, _⟩ := List.find?_eq_some_iff_append.mp hf
  rw [List.filter_append, List.filter_cons_of_neg (by simpa using hu), undelSum_append, undelSum_append]
  have := undelSum_filter_le (fun u => u.id != id) l d
  have := undelSum_filter_le (fun u => u.id != id) r d
  simp only [undelSum]; omega

/-- the loop of `ClaimMaturedUndelegations`: what the module account pays is what leaves the undelegation sum -/
theorem claimMaturedAux_effect {who now : Nat} {us keep : List Undel} {b b' : Bank}
    (h : claimMaturedAux who now us b = some (b', keep)) :
    b'.supply = b.supply ∧ ∀ d, b.balance .ms d + undelSum keep d = b'.balance .ms d + undelSum us d := by
  revert keep
  fun_induction claimMaturedAux who now us b <;> try (intro keep h; cases h; done)
  next => intro keep h; cases h; exact ⟨rfl, fun _ => rfl⟩  -- no record left
  next b1 keep1 h1 ih =>  -- a record of somebody else, or not matured: it stays
    intro keep h; cases h
    obtain ⟨hs, hm⟩ := ih h1
    refine ⟨hs, fun d => ?_⟩
    have := hm d
    simp only [undelSum]; omega
  next b1 hb1 ih =>  -- a matured record of the claimant: paid out of the module account and dropped
    intro keep h
    obtain ⟨hs, hm⟩ := ih h
    refine ⟨by rw [hs, Bank.send_supply hb1], fun d => ?_⟩
    have := hm d
    have hb' := Bank.send_bal_src hb1 nofun d
    simp only [undelSum]; omega

end Sekai.MultiStake
