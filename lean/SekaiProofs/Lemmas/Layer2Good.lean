import SekaiProofs.Lemmas.Layer2Books
import SekaiProofs.Lemmas.Layer2Held
/-! The reachable-state invariant of the bond escrow, `Good` = books + ghost ledger (`recorded bond = ledger entry`: deposited −
paid back, both cleared when the dApp is launched) + escrow (`native balance of the module ≥ Σ TotalBond of the records in the native denom`), from genesis, per operation
and along runs of message-level operations that avoid the known defects (`opOk`, `SafeRun`, defined here with their executable
forms). The end-block needs two things the books do not: no prefix collision in the refund scan, and a native denom that is not
`lp/…`. -/
namespace Sekai.Layer2

/-- C20 (a): every recorded bond is the ghost ledger's entry (deposits minus pay-backs since the dApp's creation; 0 after its launch) -/
def LedgerInv (s : St) : Prop := ∀ n u, bondAmt s.bonds n u = s.ledger n u

/-- no refund scan of a stored dApp would meet a bond record of another dApp (`NoClash` for every stored name) -/
def PrefixFree (s : St) : Prop := ∀ n ∈ names s.dapps, NoClash s.addr s.bonds n

structure Good (s : St) : Prop where
  books : BooksInv s
  ledger : LedgerInv s
  held : Held s

theorem Good.heldK {s : St} (hG : Good s) : HeldK s := ⟨hG.books.namesNodup, hG.held⟩

theorem BondStep.good {s s' : St} {u : Nat} {δ μ : Int} {r : Dapp} {nb : UBond} (h : BondStep s s' u δ μ r nb)
    (hG : Good s) (hμ : μ = δ) : Good s' := by
  subst hμ
  refine ⟨h.books hG.books, fun n v => ?_, ?_⟩
  · obtain ⟨k1, k2, _⟩ := h.key
    rw [h.bonds, h.ledger, bondAmt_setBond, k1, k2]
    by_cases hk : r.name = n ∧ u = v
    · obtain ⟨rfl, rfl⟩ := hk
      rw [if_pos ⟨rfl, rfl⟩, if_pos ⟨rfl, rfl⟩, ← hG.ledger]
      exact (h.grew hG.books).1
    · rw [if_neg hk, if_neg (fun hh => hk ⟨hh.1.symm, hh.2.symm⟩)]
      exact hG.ledger n v
  · have hH := hG.held
    unfold Held at hH ⊢
    rw [h.dapps, h.P, nativeTotal_setDapp]
    have hc : contrib s.P.native r - ((findDapp s.dapps r.name).map (contrib s.P.native)).getD 0
        = s'.bank.bal .l2 s.P.native - s.bank.bal .l2 s.P.native := by
      have hbal : s'.bank.bal .l2 s.P.native - s.bank.bal .l2 s.P.native = if r.bondDenom = s.P.native then μ else 0 := by
        split
        · rename_i hd; rw [← hd, h.l2]; omega
        · rename_i hd; rw [h.l2Other _ (Ne.symm hd)]; omega
      rw [hbal]
      rcases h.stored with ⟨hf, hb, _⟩ | ⟨d, hf, hden, _, hb, _⟩
      · simp only [hf, Option.map_none, Option.getD_none, contrib, hb]
        split <;> omega
      · simp only [hf, Option.map_some, Option.getD_some, contrib, hb, hden]
        split <;> omega
    omega

/-- The last two conjuncts (bond records only disappear, the other dApps' records stay) are what `BlockInv` carries along the loop. -/
theorem good_endBlockDapp {s s' : St} {t : Nat} {d : Dapp} (hG : Good s) (hd : d ∈ s.dapps)
    (hnc : NoClash s.addr s.bonds d.name) (hnl : NativeNotLp s.P) (h : endBlockDapp s t d = .ok s') :
    Good s' ∧ (∀ b ∈ s'.bonds, b ∈ s.bonds) ∧ (∀ x ∈ s.dapps, x.name ≠ d.name → x ∈ s'.dapps) := by
  have hB := hG.books
  have hBk := books_endBlockDapp hB h
  unfold BooksInv at hB
  rcases endBlockDapp_cases h with rfl | ⟨hst, s1, hs1, rfl⟩ | ⟨r, hr⟩
  · exact ⟨hG, fun _ hb => hb, fun _ hx _ => hx⟩
  · -- refund and removal
    rw [scan_eq_own hnc] at hs1
    have hfr := refundLoop_some hs1
    have hre := refundLoop_own_of_books hG.books hd hst hs1
    refine ⟨⟨hBk, fun n u => ?_, ?_⟩, fun b hb => ?_, fun x hx hne => ?_⟩
    · show bondAmt s1.bonds n u = s1.ledger n u
      by_cases hn : n = d.name
      · rw [hn, (hre.own u).1, (hre.own u).2, hG.ledger]
        omega
      · rw [(hre.others n u hn).1, (hre.others n u hn).2]
        exact hG.ledger n u
    · have hH := hG.held
      unfold Held at hH ⊢
      show nativeTotal (delDapp s1.dapps d.name) s1.P.native ≤ s1.bank.bal .l2 s1.P.native
      rw [hfr.dapps, hfr.P, nativeTotal_delDapp hB.namesNodup, findDapp_of_mem hB.namesNodup hd]
      simp only [Option.map_some, Option.getD_some, contrib]
      by_cases hdn : d.bondDenom = s.P.native
      · rw [← hdn] at hH ⊢
        rw [if_pos rfl, hre.module]
        omega
      · rw [if_neg hdn, hre.otherDenoms _ _ (Ne.symm hdn)]
        omega
    · exact mem_of_mem_delBondsOf (hfr.bonds ▸ hb)
    · rw [hfr.dapps]
      exact mem_delDapp.mpr ⟨hx, hne⟩
  · -- re-labelling: neither the claim nor the native balance moves; a launch clears the records and the ledger of `d` together
    have hH' := held_setDapp (bk := s'.bank) hG.held (hr.name ▸ findDapp_of_mem hB.namesNodup hd)
      (by rw [hr.bankOther _ _ (Ne.symm (hnl d.denom))]; simp [contrib, hr.bond, hr.bondDenom])
    have hheld : Held s' := by unfold Held; rw [hr.dapps, hr.P]; exact hH'
    have hothers : ∀ x ∈ s.dapps, x.name ≠ d.name → x ∈ s'.dapps :=
      fun x hx hne => hr.dapps ▸ mem_setDapp_of_ne hB.namesNodup hx (hr.name ▸ hne)
    rcases hr.records with ⟨hbs, hlg⟩ | ⟨hbs, hlg⟩
    · exact ⟨⟨hBk, fun n u => by rw [hbs, hlg]; exact hG.ledger n u, hheld⟩, fun _ hb => hbs ▸ hb, hothers⟩
    · refine ⟨⟨hBk, fun n u => ?_, hheld⟩, fun b hb => mem_of_mem_delBondsOf (hbs ▸ hb), hothers⟩
      rw [hbs, hlg]
      by_cases hn : n = d.name
      · rw [if_pos hn, hn, bondAmt_delBondsOf_own u (fun b hb hbd => hbd ▸ own_in_scan hb)]
      · rw [if_neg hn, bondAmt_delBondsOf_other u hn]
        exact hG.ledger n u

/-- The loop visits a snapshot: each record is still the stored one when its turn comes, because an iteration leaves the other
dApps alone, and its scan is still free of collisions, because bond records only disappear. -/
structure BlockInv (s σ : St) (l : List Dapp) : Prop where
  good : Good σ
  P : σ.P = s.P
  addr : σ.addr = s.addr
  fewer : ∀ b ∈ σ.bonds, b ∈ s.bonds                            -- hence `PrefixFree s` still serves
  stored : ∀ x ∈ l, x ∈ σ.dapps ∧ x.name ∈ names s.dapps
  once : (names l).Nodup

theorem good_endBlock {s s' : St} {t : Nat} (hG : Good s) (hnl : NativeNotLp s.P) (hPF : PrefixFree s)
    (h : endBlock s t = .ok s') : Good s' := by
  have hperm := sortDapps_perm s.dapps
  refine (endBlockLoop_induct (t := t) (I := BlockInv s) ?_ (sortDapps s.dapps)
    { good := hG, P := rfl, addr := rfl, fewer := fun _ hb => hb, stored := fun x hx => ?_,
      once := ((hperm.map Dapp.name).nodup_iff).mpr hG.books.namesNodup } h).good
  · intro σ σ' d rest hI hs1
    obtain ⟨hd, hdn⟩ := hI.stored d List.mem_cons_self
    have hnc : NoClash σ.addr σ.bonds d.name := fun b hb hp => hPF d.name hdn b (hI.fewer b hb) (hI.addr ▸ hp)
    obtain ⟨hG', hsub', hkeep⟩ := good_endBlockDapp hI.good hd hnc (hI.P ▸ hnl) hs1
    have hfr := endBlockDapp_frame hs1
    obtain ⟨hfresh, hnd⟩ : d.name ∉ names rest ∧ (names rest).Nodup := List.nodup_cons.mp hI.once
    refine { good := hG', P := hfr.1.trans hI.P, addr := hfr.2.trans hI.addr, fewer := fun b hb => hI.fewer b (hsub' b hb),
             stored := fun x hx => ?_, once := hnd }
    obtain ⟨hx1, hx2⟩ := hI.stored x (List.mem_cons_of_mem _ hx)
    exact ⟨hkeep x hx1 (fun hxe => hfresh (hxe ▸ List.mem_map.mpr ⟨x, hx, rfl⟩)), hx2⟩
  · have hx' := (hperm.mem_iff).mp hx
    exact ⟨hx', List.mem_map.mpr ⟨x, hx', rfl⟩⟩

def prefixFreeB (s : St) : Bool :=
  s.dapps.all fun d => s.bonds.all fun b => !(d.name.isPrefixOf (bondKey s.addr b)) || decide (b.dapp = d.name)

theorem prefixFree_of_B {s : St} (h : prefixFreeB s = true) : PrefixFree s := by
  intro n hn b hb hp
  obtain ⟨d, hd, rfl⟩ := List.mem_map.mp hn
  unfold prefixFreeB at h
  simpa [hp] using List.all_eq_true.mp (List.all_eq_true.mp h d hd) b hb

/-- the decidable exclusion of the known defects -/
def opOk (s : St) : Op → Bool
  | .create _ _ perm _ _ amt => !perm || decide (0 ≤ amt)     -- known finding: negative bond recorded (permissioned creator)
  | .endBlock _ => prefixFreeB s                              -- known finding: name-prefix collision in the refund scan
  | .upsert _ => false                                        -- known finding: UpsertDapp proposal overwrites TotalBond
  | _ => true

def SafeRun (s : St) : List Op → Prop
  | [] => True
  | op :: rest => opOk s op = true ∧ SafeRun (step s op) rest

theorem good_apply {s s' : St} {op : Op} (hG : Good s) (hnl : NativeNotLp s.P) (hop : opOk s op = true) (h : apply s op = .ok s') : Good s' :=
  apply_cases (motive := fun op s' => opOk s op = true → Good s')
    (create := fun hs _ hμ hop => hs.good hG (hμ (fun hp => by simpa [opOk, hp] using hop)))
    (bond := fun hs _ _ => hs.good hG rfl) (reclaim := fun hs _ _ => hs.good hG rfl)
    (block := fun h hop => good_endBlock hG hnl (prefixFree_of_B hop) h)
    (upsert := fun hop => nomatch hop)
    (xfer := fun hbk _ => ⟨hG.books, hG.ledger, by have := hG.held; unfold Held at this ⊢; rwa [hbk]⟩) h hop

theorem good_run (ops : List Op) {s : St} (hG : Good s) (hnl : NativeNotLp s.P) (hs : SafeRun s ops) : Good (run s ops) := by
  induction ops generalizing s with
  | nil => exact hG
  | cons op rest ih =>
    exact ih (step_cases hG (fun _ => good_apply hG hnl hs.1)) ((step_frame s op).1 ▸ hnl) hs.2

theorem good_genesis (P : Params) (addr : Nat → Bytes) (bal : Acct → Bytes → Int) (h : 0 ≤ bal .l2 P.native) : Good (genesis P addr bal) := by
  refine ⟨⟨List.nodup_nil, ?_, List.nodup_nil, ?_, ?_⟩, fun _ _ => rfl, h⟩
  · intro b hb; cases hb
  · intro d hd; cases hd
  · intro d hd; cases hd

end Sekai.Layer2

-- its name is the property file's (`Props/C20` decides its closed `SafeRun` witnesses with it)
namespace Sekai.Props.C20
open Sekai.Layer2

instance SafeRun.dec : (s : St) → (ops : List Op) → Decidable (SafeRun s ops)
  | _, [] => isTrue trivial
  | s, op :: rest => @instDecidableAnd _ _ _ (SafeRun.dec (step s op) rest)

end Sekai.Props.C20

