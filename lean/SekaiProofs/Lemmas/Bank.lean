import Sekai.Base.Bank
/-! The bank model: an accepted operation inverted to the closed form of the new state, and what one operation does to a
total and to a balance. A run is `ops.foldl apply b`: `Fold.getD_inv` (Lemmas/Fold). -/
namespace Sekai.Bank

def Conserved (n : Nat) (b : B) : Prop := ∀ d, b.supply d = total b d n

theorem send_some {b b' : B} {s t d : Nat} {amt : Int} (h : step b (.send s t d amt) = some b') :
    b' = { b with bal := upd2 (upd2 b.bal s d (b.bal s d - amt)) t d (upd2 b.bal s d (b.bal s d - amt) t d + amt) } ∧
      0 ≤ amt ∧ amt ≤ b.bal s d := by
  simp only [step, Option.ite_none_left_eq_some, Option.some.injEq] at h
  exact ⟨h.2.symm, by omega, by omega⟩

theorem mint_some {b b' : B} {t d : Nat} {amt : Int} (h : step b (.mint t d amt) = some b') :
    b' = { bal := upd2 b.bal t d (b.bal t d + amt), supply := fun d' => if d' = d then b.supply d + amt else b.supply d' } ∧
      0 ≤ amt := by
  simp only [step, Option.ite_none_left_eq_some, Option.some.injEq] at h
  exact ⟨h.2.symm, by omega⟩

theorem burn_some {b b' : B} {s d : Nat} {amt : Int} (h : step b (.burn s d amt) = some b') :
    b' = { bal := upd2 b.bal s d (b.bal s d - amt), supply := fun d' => if d' = d then b.supply d - amt else b.supply d' } ∧
      0 ≤ amt ∧ amt ≤ b.bal s d := by
  simp only [step, Option.ite_none_left_eq_some, Option.some.injEq] at h
  exact ⟨h.2.symm, by omega, by omega⟩

theorem totalF_upd2 (f : Nat → Nat → Int) (a d : Nat) (x : Int) (d' n : Nat) :
    totalF (upd2 f a d x) d' n = totalF f d' n + if a < n ∧ d' = d then x - f a d else 0 := by
  induction n with
  | zero => simp [totalF]
  | succ k ih =>
    rw [totalF, totalF, ih, upd2]
    by_cases h : k = a ∧ d' = d
    · obtain ⟨rfl, rfl⟩ := h      -- the updated point joins the domain
      simp; omega
    · have e : (a < k + 1 ∧ d' = d) ↔ (a < k ∧ d' = d) := by omega
      simp only [if_neg h, e]; omega

/-- mint is this with `x = amt`, burn with `x = -amt` -/
theorem conserved_credit {n : Nat} {b : B} (hc : Conserved n b) {t : Nat} (ht : t < n) (d : Nat) (x : Int) :
    Conserved n { bal := upd2 b.bal t d (b.bal t d + x), supply := fun d' => if d' = d then b.supply d + x else b.supply d' } := by
  intro d'
  show (if d' = d then b.supply d + x else b.supply d') = totalF _ d' n
  rw [totalF_upd2, ← total, ← hc d']
  simp only [ht, true_and]
  split
  · next e => subst e; omega
  · omega

theorem conserved_step {n : Nat} {b b' : B} {op : Op} (hc : Conserved n b) (hw : op.within n) (hs : step b op = some b') :
    Conserved n b' := by
  cases op with
  | send s t d amt =>
    obtain ⟨rfl, _⟩ := send_some hs
    intro d'
    show b.supply d' = totalF _ d' n
    -- the debit at `s` and the credit at `t` move the total of `d` by `-amt` and `+amt` (also when `s = t`)
    rw [totalF_upd2, totalF_upd2, hc d', total]
    simp only [hw.1, hw.2, true_and]
    split <;> omega
  | mint t d amt => obtain ⟨rfl, _⟩ := mint_some hs; exact conserved_credit hc hw d amt
  | burn s d amt => obtain ⟨rfl, _⟩ := burn_some hs; exact conserved_credit hc hw d (-amt)

theorem upd2_le {f : Nat → Nat → Int} {a0 d0 a d : Nat} {x : Int} (h : a = a0 → d = d0 → f a0 d0 ≤ x) :
    f a d ≤ upd2 f a0 d0 x a d := by
  unfold upd2
  split
  · next e => rw [e.1, e.2]; exact h e.1 e.2
  · exact Int.le_refl _

theorem step_debits_only_payer {b b' : B} {op : Op} (hs : step b op = some b') (a d : Nat) (ha : op.payer ≠ some a) :
    b.bal a d ≤ b'.bal a d := by
  cases op with
  | send s t d0 amt =>
    obtain ⟨rfl, h0, _⟩ := send_some hs
    exact Int.le_trans (upd2_le fun e => absurd (congrArg some e.symm) ha) (upd2_le fun _ _ => by omega)
  | mint t d0 amt =>
    obtain ⟨rfl, h0⟩ := mint_some hs
    exact upd2_le fun _ _ => by omega
  | burn s d0 amt =>
    obtain ⟨rfl, _⟩ := burn_some hs
    exact upd2_le fun e => absurd (congrArg some e.symm) ha

end Sekai.Bank
