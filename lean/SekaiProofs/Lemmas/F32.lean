import Mathlib.Data.Rat.Floor
import Sekai.Base.F32
/-! # The float32 tally of `CalculatedVotes.ProcessResult` equals the exact rule up to 2^24 votes and veto-capable voters
(`processResult_exact`)

On the binade `[2^23·2^e, 2^24·2^e)` rounding is rounding to a nearest multiple of `2^e` (`rne_binade`); hence `rne` does not cross
a float (`le_rne`, `rne_le`), and an `x` above the midpoint of two neighbouring floats `m·2^e`, `(m+1)·2^e` rounds to the upper one or
higher, one below it to the lower one or lower (`rne_ge_succ`, `rne_le_pred`).
From these `pct_cmp` places `float32(n) / float32(d) * 100` against 50 as `2·n` lies against `d`, for every `n` and every `0 < d ≤ 2^24`.
Its corollaries for the single tests, `pass_exact` and `ge_exact_any`, and the two divergence witnesses just above 2^24 stand in
`Props/C08` (namespace `Sekai.F32`). -/
namespace Sekai.F32

theorem pow2_eq (e : ℤ) : pow2 e = (2 : ℚ) ^ e := by
  unfold pow2
  split_ifs with h
  · push_cast
    rw [← zpow_natCast, Int.toNat_of_nonneg h]
  · push_cast
    rw [← zpow_natCast, Int.toNat_of_nonneg (by omega), zpow_neg, one_div, inv_inv]

theorem two_zpow_pos (e : ℤ) : (0 : ℚ) < 2 ^ e := zpow_pos two_pos e

/-- `rhe x` is a nearest integer. Which one it is at a tie is forgotten here: nothing below needs it. -/
theorem rhe_near {x : ℚ} (hx : 0 ≤ x) : (rhe x : ℚ) ≤ x + 1 / 2 ∧ x ≤ rhe x + 1 / 2 := by
  have hf : ((x.floor.toNat : ℕ) : ℚ) = ⌊x⌋ := by
    exact_mod_cast congrArg (Int.cast : ℤ → ℚ) (Int.toNat_of_nonneg (Int.floor_nonneg.mpr hx))
  obtain ⟨f, h1, h2, hr⟩ : ∃ f : ℕ, (f : ℚ) ≤ x ∧ x < f + 1 ∧
      rhe x = if x - f < 1 / 2 then f else if 1 / 2 < x - f then f + 1 else if f % 2 = 0 then f else f + 1 :=
    ⟨x.floor.toNat, hf ▸ Int.floor_le x, hf ▸ Int.lt_floor_add_one x, rfl⟩
  have down : x - f ≤ 1 / 2 → (f : ℚ) ≤ x + 1 / 2 ∧ x ≤ f + 1 / 2 := fun h =>
    ⟨h1.trans (le_add_of_nonneg_right one_half_pos.le), sub_le_iff_le_add'.mp h⟩
  have up : 1 / 2 ≤ x - f → ((f + 1 : ℕ) : ℚ) ≤ x + 1 / 2 ∧ x ≤ (f + 1 : ℕ) + 1 / 2 := fun h => by
    rw [Nat.cast_succ]
    exact ⟨(add_le_add (le_sub_iff_add_le.mp h) le_rfl).trans_eq' (by ring : 1 / 2 + (f : ℚ) + 1 / 2 = f + 1),
      h2.le.trans (le_add_of_nonneg_right one_half_pos.le)⟩
  rw [hr]
  split_ifs with h h'
  · exact down h.le
  · exact up h'.le
  · exact down (not_lt.mp h')
  · exact up (not_lt.mp h)

theorem natCast_lt_succ {a b : ℕ} (h : (a : ℚ) < b + 1) : a ≤ b := Nat.lt_succ_iff.mp (by exact_mod_cast h)

theorem le_rhe {x : ℚ} (hx : 0 ≤ x) {n : ℕ} (h : (n : ℚ) < x + 1 / 2) : n ≤ rhe x := by
  have : (n : ℚ) < rhe x + 1 :=
    calc (n : ℚ) < x + 1 / 2 := h
      _ ≤ rhe x + 1 / 2 + 1 / 2 := add_le_add (rhe_near hx).2 le_rfl
      _ = rhe x + 1 := by ring
  exact natCast_lt_succ this

theorem rhe_le {x : ℚ} (hx : 0 ≤ x) {n : ℕ} (h : x < (n : ℚ) + 1 / 2) : rhe x ≤ n := by
  have : (rhe x : ℚ) < n + 1 :=
    calc (rhe x : ℚ) ≤ x + 1 / 2 := (rhe_near hx).1
      _ < n + 1 / 2 + 1 / 2 := add_lt_add_of_lt_of_le h le_rfl
      _ = n + 1 := by ring
  exact natCast_lt_succ this

theorem le_rhe_of_le {x : ℚ} {n : ℕ} (h : (n : ℚ) ≤ x) : n ≤ rhe x :=
  le_rhe (n.cast_nonneg.trans h) (h.trans_lt (lt_add_of_pos_right _ one_half_pos))

theorem rhe_le_of_le {x : ℚ} (hx : 0 ≤ x) {n : ℕ} (h : x ≤ (n : ℚ)) : rhe x ≤ n :=
  rhe_le hx (h.trans_lt (lt_add_of_pos_right _ one_half_pos))

/-- a product and one of its factors, each known up to a factor 2, pin the other factor up to a factor 4 -/
theorem binade_of_mul {x q D B : ℚ} (hD : 0 < D) (hB : 0 < B) (h1 : D * B ≤ x * q) (h2 : x * q < 2 * (D * B))
    (hq : B ≤ q) (hq' : q < 2 * B) : D / 2 < x ∧ x < 2 * D := by
  have hq0 : 0 ≤ q := (hB.trans_le hq).le
  constructor
  · apply lt_of_mul_lt_mul_right _ hq0
    calc D / 2 * q < D / 2 * (2 * B) := mul_lt_mul_of_pos_left hq' (half_pos hD)
      _ = D * B := by ring
      _ ≤ x * q := h1
  · apply lt_of_mul_lt_mul_right _ hq0
    calc x * q < 2 * (D * B) := h2
      _ = 2 * D * B := by ring
      _ ≤ 2 * D * q := mul_le_mul_of_nonneg_left hq (by positivity)

theorem natLog2_bounds {n : ℕ} (hn : n ≠ 0) : (2 : ℚ) ^ (n.log2 : ℤ) ≤ n ∧ (n : ℚ) < 2 * 2 ^ (n.log2 : ℤ) := by
  rw [zpow_natCast, ← pow_succ']
  exact ⟨by exact_mod_cast Nat.log2_self_le hn, by exact_mod_cast Nat.lt_log2_self (n := n)⟩

/-- With `a`, `b` the binary logarithms, rounded down, of numerator and denominator and `d = a - b`, `x` lies in
`(2^(d-1), 2^(d+1))`; the two comparisons in `ilog2` then tell `d - 1` from `d` (its second branch, `d + 1`, is never taken). -/
theorem ilog2_spec {x : ℚ} (hx : 0 < x) : (2 : ℚ) ^ ilog2 x ≤ x ∧ x < 2 ^ (ilog2 x + 1) := by
  have hnum : 0 < x.num := Rat.num_pos.mpr hx
  have hp : ((x.num.toNat : ℕ) : ℚ) = x * x.den := by
    rw [Rat.mul_den_eq_num]
    exact_mod_cast congrArg (Int.cast : ℤ → ℚ) (Int.toNat_of_nonneg hnum.le)
  obtain ⟨a1, a2⟩ := natLog2_bounds (n := x.num.toNat) (by omega)
  obtain ⟨b1, b2⟩ := natLog2_bounds x.den_ne_zero
  have hd : (2 : ℚ) ^ (x.num.toNat.log2 : ℤ) = 2 ^ ((x.num.toNat.log2 : ℤ) - x.den.log2) * 2 ^ (x.den.log2 : ℤ) := by
    rw [← zpow_add₀ two_ne_zero, sub_add_cancel]
  rw [hp, hd] at a1 a2
  obtain ⟨hlo, hhi⟩ := binade_of_mul (two_zpow_pos _) (two_zpow_pos _) a1 a2 b1 b2
  unfold ilog2
  simp only [pow2_eq]
  generalize (x.num.toNat.log2 : ℤ) - (x.den.log2 : ℤ) = d at *
  rw [div_eq_mul_inv, ← zpow_sub_one₀ two_ne_zero] at hlo
  rw [← zpow_one_add₀ two_ne_zero, add_comm] at hhi
  split_ifs with h h'
  · exact ⟨hlo.le, by rwa [sub_add_cancel]⟩
  · exact absurd hhi (not_lt.mpr h')
  · exact ⟨not_lt.mp h, hhi⟩

theorem ilog2_eq {x : ℚ} {n : ℤ} (h1 : (2 : ℚ) ^ n ≤ x) (h2 : x < 2 ^ (n + 1)) : ilog2 x = n := by
  obtain ⟨s1, s2⟩ := ilog2_spec ((two_zpow_pos n).trans_le h1)
  have a := (zpow_lt_zpow_iff_right₀ (one_lt_two (α := ℚ))).mp (h1.trans_lt s2)
  have b := (zpow_lt_zpow_iff_right₀ (one_lt_two (α := ℚ))).mp (s1.trans_lt h2)
  omega

theorem rne_nonpos {x : ℚ} (hx : x ≤ 0) : rne x = 0 := if_pos hx

theorem rne_of_pos {x : ℚ} (hx : 0 < x) : rne x = rhe (x / 2 ^ (ilog2 x - 23)) * 2 ^ (ilog2 x - 23) := by
  unfold rne
  rw [if_neg (not_le.mpr hx)]
  simp only [pow2_eq]
  rw [← neg_sub (ilog2 x) 23, neg_neg, zpow_neg, ← div_eq_mul_inv]

theorem rne_binade {x : ℚ} {e : ℤ} (h1 : 2 ^ 23 ≤ x / 2 ^ e) (h2 : x / 2 ^ e < 2 ^ 24) :
    rne x = rhe (x / 2 ^ e) * 2 ^ e := by
  have he := two_zpow_pos e
  rw [le_div_iff₀ he] at h1
  rw [div_lt_iff₀ he] at h2
  have hi : ilog2 x = 23 + e := by
    apply ilog2_eq
    · rwa [zpow_add₀ two_ne_zero]
    · rwa [add_right_comm, zpow_add₀ two_ne_zero]
  rw [rne_of_pos ((mul_pos (by norm_num) he).trans_le h1), hi, add_sub_cancel_left]

theorem exists_binade {x : ℚ} (hx : 0 < x) : ∃ e : ℤ, ((2 ^ 23 : ℕ) : ℚ) ≤ x / 2 ^ e ∧ rne x = rhe (x / 2 ^ e) * 2 ^ e := by
  refine ⟨ilog2 x - 23, ?_, rne_of_pos hx⟩
  rw [le_div_iff₀ (two_zpow_pos _), Nat.cast_pow, Nat.cast_ofNat, ← zpow_natCast, ← zpow_add₀ two_ne_zero, Nat.cast_ofNat,
    add_sub_cancel]
  exact (ilog2_spec hx).1

/-- a non-negative binary32 value, the exponent range left aside. `m ≤ 2^24` and not `<`: the values are the same
(`2^24·2^e = 2^23·2^(e+1)`) and `2^24` needs no case of its own. -/
def Rep (r : ℚ) : Prop := ∃ (m : ℕ) (e : ℤ), m ≤ 2 ^ 24 ∧ r = m * 2 ^ e

theorem Rep.nonneg {r : ℚ} (hr : Rep r) : 0 ≤ r := by
  obtain ⟨m, e, _, rfl⟩ := hr
  exact mul_nonneg m.cast_nonneg (two_zpow_pos e).le

/-- measured in units of `2^e`, a float is a whole number (it lies on the grid of that binade or a coarser one) or lies
below the binade -/
theorem Rep.grid {r : ℚ} (hr : Rep r) (e : ℤ) : (∃ N : ℕ, r / 2 ^ e = N) ∨ r / 2 ^ e ≤ ((2 ^ 23 : ℕ) : ℚ) := by
  obtain ⟨m, e', hm, rfl⟩ := hr
  rw [mul_div_assoc, ← zpow_sub₀ two_ne_zero]
  by_cases hj : 0 ≤ e' - e
  · left
    refine ⟨m * 2 ^ (e' - e).toNat, ?_⟩
    rw [Nat.cast_mul, Nat.cast_pow, Nat.cast_ofNat, ← zpow_natCast, Int.toNat_of_nonneg hj]
  · right
    have h2 : (2 : ℚ) ^ (e' - e) ≤ 2 ^ (-1 : ℤ) := zpow_le_zpow_right₀ one_le_two (by omega)
    calc (m : ℚ) * 2 ^ (e' - e) ≤ ((2 ^ 24 : ℕ) : ℚ) * 2 ^ (-1 : ℤ) :=
          mul_le_mul (Nat.cast_le.mpr hm) h2 (two_zpow_pos _).le (Nat.cast_nonneg _)
      _ = ((2 ^ 23 : ℕ) : ℚ) := by norm_num

theorem le_rne {r x : ℚ} (hr : Rep r) (h : r ≤ x) : r ≤ rne x := by
  by_cases hx : 0 < x
  · obtain ⟨e, hy, hrne⟩ := exists_binade hx
    have hry := div_le_div_of_nonneg_right h (two_zpow_pos e).le
    rw [hrne, ← div_le_iff₀ (two_zpow_pos e)]
    rcases hr.grid e with ⟨N, hN⟩ | hlt
    · rw [hN] at hry ⊢
      exact Nat.cast_le.mpr (le_rhe_of_le hry)
    · exact hlt.trans (Nat.cast_le.mpr (le_rhe_of_le hy))
  · rw [rne_nonpos (not_lt.mp hx)]
    exact h.trans (not_lt.mp hx)

theorem rne_le {r x : ℚ} (hr : Rep r) (h : x ≤ r) : rne x ≤ r := by
  by_cases hx : 0 < x
  · obtain ⟨e, hy, hrne⟩ := exists_binade hx
    have hy0 : 0 ≤ x / 2 ^ e := (Nat.cast_nonneg _).trans hy
    have hry := div_le_div_of_nonneg_right h (two_zpow_pos e).le
    rw [hrne, ← le_div_iff₀ (two_zpow_pos e)]
    rcases hr.grid e with ⟨N, hN⟩ | hlt
    · rw [hN] at hry ⊢
      exact Nat.cast_le.mpr (rhe_le_of_le hy0 hry)
    · -- `x / 2^e = 2^23 = r / 2^e`
      exact (Nat.cast_le.mpr (rhe_le_of_le hy0 (hry.trans hlt))).trans (hy.trans hry)
  · rw [rne_nonpos (not_lt.mp hx)]
    exact hr.nonneg

theorem rne_rep {r : ℚ} (hr : Rep r) : rne r = r := le_antisymm (rne_le hr le_rfl) (le_rne hr le_rfl)

theorem rne_ge_succ {x : ℚ} {m : ℕ} {e : ℤ} (hm1 : 2 ^ 23 ≤ m) (hm2 : m < 2 ^ 24)
    (h : ((m : ℚ) + 1 / 2) * 2 ^ e < x) : ((m : ℚ) + 1) * 2 ^ e ≤ rne x := by
  have he := two_zpow_pos e
  have hy : (m : ℚ) + 1 / 2 < x / 2 ^ e := (lt_div_iff₀ he).mpr h
  have hm1' : (2 : ℚ) ^ 23 ≤ m := by exact_mod_cast hm1
  have hm2' : (m : ℚ) + 1 ≤ 2 ^ 24 := by exact_mod_cast hm2
  by_cases hhi : x / 2 ^ e < 2 ^ 24
  · have hlo : 2 ^ 23 ≤ x / 2 ^ e := (hm1'.trans (le_add_of_nonneg_right one_half_pos.le)).trans hy.le
    rw [rne_binade hlo hhi]
    have : m + 1 ≤ rhe (x / 2 ^ e) :=
      le_rhe (le_trans (by norm_num) hlo) ((add_lt_add_of_lt_of_le hy le_rfl).trans_eq' (by push_cast; ring))
    exact mul_le_mul_of_nonneg_right (by exact_mod_cast this) he.le
  · -- beyond the binade the float `2^24·2^e` lies between
    exact (mul_le_mul_of_nonneg_right hm2' he.le).trans
      (le_rne ⟨2 ^ 24, e, le_rfl, by norm_num⟩ ((le_div_iff₀ he).mp (not_lt.mp hhi)))

theorem rne_le_pred {x : ℚ} {m : ℕ} {e : ℤ} (hm1 : 2 ^ 23 ≤ m) (hm2 : m < 2 ^ 24)
    (h : x < ((m : ℚ) + 1 / 2) * 2 ^ e) : rne x ≤ (m : ℚ) * 2 ^ e := by
  have he := two_zpow_pos e
  have hy : x / 2 ^ e < (m : ℚ) + 1 / 2 := (div_lt_iff₀ he).mpr h
  have hm1' : (2 : ℚ) ^ 23 ≤ m := by exact_mod_cast hm1
  have hm2' : (m : ℚ) + 1 ≤ 2 ^ 24 := by exact_mod_cast hm2
  by_cases hlo : x / 2 ^ e ≤ m
  · exact rne_le ⟨m, e, hm2.le, rfl⟩ ((div_le_iff₀ he).mp hlo)
  · have hlo' : 2 ^ 23 ≤ x / 2 ^ e := hm1'.trans (not_le.mp hlo).le
    have hhi : x / 2 ^ e < 2 ^ 24 :=
      (hy.trans (add_lt_add_of_le_of_lt le_rfl (by norm_num))).trans_le hm2'
    rw [rne_binade hlo' hhi]
    exact mul_le_mul_of_nonneg_right (Nat.cast_le.mpr (rhe_le (le_trans (by norm_num) hlo') hy)) he.le

theorem mul_hundred_le {u v : ℚ} (h : u ≤ v) : u * 100 ≤ v * 100 := mul_le_mul_of_nonneg_right h (by norm_num)

theorem rep_half : Rep (1 / 2) := ⟨1, -1, by norm_num, by norm_num⟩

theorem rep_fifty : Rep 50 := ⟨25, 1, by norm_num, by norm_num⟩

theorem mul_div_ge {a b : ℚ} (hb : 0 < b) (h : b ≤ 2 * a) : 50 ≤ mul (div a b) 100 := by
  have h1 : (1 / 2 : ℚ) ≤ div a b := le_rne rep_half ((le_div_iff₀ hb).mpr (by linarith))
  exact le_rne rep_fifty (le_trans (by norm_num) (mul_hundred_le h1))

theorem mul_div_le {a b : ℚ} (hb : 0 < b) (h : 2 * a ≤ b) : mul (div a b) 100 ≤ 50 := by
  have h1 : div a b ≤ (1 / 2 : ℚ) := rne_le rep_half ((div_le_iff₀ hb).mpr (by linarith))
  exact rne_le rep_fifty (le_trans (mul_hundred_le h1) (by norm_num))

/-- beyond the midpoint `1/2 + 2^-25` the quotient rounds to the float above `1/2`, which is `1/2 + 2^-24`, and 100 times that
exceeds `50 + 2^-18`, the float above 50 -/
theorem mul_div_gt {a b : ℚ} (hb : 0 < b) (h : (2 ^ 24 + 1) * b < 2 ^ 25 * a) : 50 < mul (div a b) 100 := by
  have h1 : ((2 ^ 23 : ℕ) + 1 : ℚ) * 2 ^ (-24 : ℤ) ≤ div a b :=
    rne_ge_succ le_rfl (by norm_num) ((lt_div_iff₀ hb).mpr (by norm_num; linarith))
  have h2 : (50 + 1 / 2 ^ 18 : ℚ) ≤ mul (div a b) 100 :=
    le_rne ⟨50 * 2 ^ 18 + 1, -18, by norm_num, by norm_num⟩ (le_trans (by norm_num) (mul_hundred_le h1))
  exact lt_of_lt_of_le (by norm_num) h2

/-- up to `1/2 - 2^-25`, the float below `1/2`, the quotient rounds to at most that, and 100 times that is below
`50 - 2^-19`, the midpoint under 50 -/
theorem mul_div_lt {a b : ℚ} (hb : 0 < b) (h : 2 ^ 25 * a + b ≤ 2 ^ 24 * b) : mul (div a b) 100 < 50 := by
  have h1 : div a b ≤ (1 / 2 - 1 / 2 ^ 25 : ℚ) :=
    rne_le ⟨2 ^ 24 - 1, -25, by norm_num, by norm_num⟩ ((div_le_iff₀ hb).mpr (by linarith))
  have h2 : mul (div a b) 100 ≤ ((50 * 2 ^ 18 - 1 : ℕ) : ℚ) * 2 ^ (-18 : ℤ) :=
    rne_le_pred (by norm_num) (by norm_num) (lt_of_le_of_lt (mul_hundred_le h1) (by norm_num))
  exact lt_of_le_of_lt h2 (by norm_num)

theorem rep_natCast {n : ℕ} (h : n ≤ 2 ^ 24) : Rep n := ⟨n, 0, h, by rw [zpow_zero, mul_one]⟩

theorem ofNat_exact {n : ℕ} (h : n ≤ 2 ^ 24) : ofNat n = n := rne_rep (rep_natCast h)

/-- for `n` beyond 2^24 the numerator is rounded, but to no less than 2^24, which decides the test as well (`uint64` values are
far below the float32 overflow threshold, which the model ignores) -/
theorem pct_cmp (n d : ℕ) (hd : 0 < d) (hD : d ≤ 2 ^ 24) :
    (50 < mul (div (ofNat n) (ofNat d)) 100 ↔ d < 2 * n) ∧ (50 ≤ mul (div (ofNat n) (ofNat d)) 100 ↔ d ≤ 2 * n) := by
  rw [ofNat_exact hD]
  have hdq : (0 : ℚ) < d := by exact_mod_cast hd
  -- all that the true cases need of the numerator: `float32(n) ≥ m = min n 2^24`
  have hm : ((min n (2 ^ 24) : ℕ) : ℚ) ≤ ofNat n :=
    le_rne (rep_natCast (Nat.min_le_right _ _)) (Nat.cast_le.mpr (Nat.min_le_left _ _))
  generalize hmin : min n (2 ^ 24) = m at hm
  -- left to right each equivalence is the contrapositive of the opposite comparison
  refine ⟨⟨fun h => Nat.lt_of_not_le fun hc => absurd h (not_lt.mpr ?_), fun h => ?_⟩,
    ⟨fun h => Nat.le_of_not_lt fun hc => absurd h (not_le.mpr ?_), fun h => ?_⟩⟩
  · rw [ofNat_exact (by omega)]
    exact mul_div_le hdq (by exact_mod_cast hc)
  · -- `2m ≥ d + 1` puts `m / d` at `1/2 + 1/(2d) ≥ 1/2 + 2^-25` or above, with equality only for `d = 2^24`, `2m = d + 1`,
    -- which cannot be: `2^24` is even (this is what `omega` finds)
    have : ((2 : ℚ) ^ 24 + 1) * d < 2 ^ 25 * m := by exact_mod_cast (by omega : (2 ^ 24 + 1) * d < 2 ^ 25 * m)
    exact mul_div_gt hdq (this.trans_le (mul_le_mul_of_nonneg_left hm (by norm_num)))
  · -- `2n ≤ d - 1` puts `n / d` at `1/2 - 1/(2d) ≤ 1/2 - 2^-25` or below
    rw [ofNat_exact (by omega)]
    exact mul_div_lt hdq (by exact_mod_cast (by omega : 2 ^ 25 * n + d ≤ 2 ^ 24 * d))
  · have : (d : ℚ) ≤ 2 * m := by exact_mod_cast (by omega : d ≤ 2 * m)
    exact mul_div_ge hdq (this.trans (mul_le_mul_of_nonneg_left hm zero_le_two))

theorem processResult_exact (yes no abstain veto actorsWithVeto total : ℕ)
    (hT : total ≤ 2 ^ 24) (hA : actorsWithVeto ≤ 2 ^ 24) :
    processResult yes no abstain veto actorsWithVeto total
      = exactRule yes no abstain veto actorsWithVeto total := by
  have hge : ∀ (n : ℕ) {d : ℕ}, d ≤ 2 ^ 24 → ((d ≠ 0 ∧ geF n d = true) ↔ (d ≠ 0 ∧ 2 * n ≥ d)) := fun n d hD =>
    and_congr_right fun h0 => decide_eq_true_iff.trans (pct_cmp n d (Nat.pos_of_ne_zero h0) hD).2
  have hpass : (total ≠ 0 ∧ passF yes total = true) ↔ (total ≠ 0 ∧ 2 * yes > total) :=
    and_congr_right fun h0 => decide_eq_true_iff.trans (pct_cmp yes total (Nat.pos_of_ne_zero h0) hT).1
  unfold processResult exactRule
  simp only [hge veto hA, hge (no + abstain + veto) hT, hpass]
end Sekai.F32
