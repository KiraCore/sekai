import SekaiProofs.Lemmas.MultiStakeClosed
import SekaiProofs.Lemmas.MultiStakePools
import SekaiProofs.Lemmas.MultiStakeCoins
/-! The state invariant `Inv` of the multistaking model and its preservation by every op. -/
namespace Sekai.MultiStake
open Sekai AMap

structure Inv (s : St) : Prop where
  /-- the supply of every share denom of a pool is the pool's recorded share total -/
  share : ∀ p ∈ s.pools, ∀ d : Denom, d.pool = p.id → get s.bank.supply d = get p.shares d
  ids : ∀ p ∈ s.pools, 1 ≤ p.id ∧ p.id ≤ s.lastPoolId
  distinct : s.pools.Pairwise Distinct
  /-- no supply of share denoms of pools that do not exist yet (a new pool starts at supply 0 = recorded 0) -/
  fresh : ∀ d : Denom, s.lastPoolId < d.pool → get s.bank.supply d = 0
  /-- the module account covers pool stake and pending undelegations -/
  solv : ∀ d : Denom, stakeSum s.pools d + undelSum s.undels d ≤ s.bank.balance .ms d

theorem Inv.of_bank {s s' : St} (h : Inv s) (hp : s'.pools = s.pools) (hl : s'.lastPoolId = s.lastPoolId)
    (hs : ∀ d : Denom, d.pool ≠ 0 → get s'.bank.supply d = get s.bank.supply d)
    (hm : ∀ d : Denom, undelSum s'.undels d + s.bank.balance .ms d ≤ undelSum s.undels d + s'.bank.balance .ms d) :
    Inv s' := by
  refine { share := ?_, ids := ?_, distinct := ?_, fresh := ?_, solv := ?_ }
  · intro p hp' d hd
    rw [hp] at hp'
    have := (h.ids p hp').1
    rw [hs d (by omega)]; exact h.share p hp' d hd
  · rw [hp, hl]; exact h.ids
  · rw [hp]; exact h.distinct
  · intro d hd
    rw [hl] at hd
    rw [hs d (by omega)]; exact h.fresh d hd
  · intro d
    rw [hp]
    have := h.solv d
    have := hm d
    omega

theorem Inv.congr {s s' : St} (h : Inv s) (hb : s'.bank = s.bank) (hp : s'.pools = s.pools)
    (hl : s'.lastPoolId = s.lastPoolId) (hu : s'.undels = s.undels) : Inv s' :=
  h.of_bank hp hl (fun _ _ => by rw [hb]) (fun _ => by rw [hb, hu]; exact Nat.le_refl _)

/-- what delegate, undelegate, slash and the enabled flag have in common: one record is replaced in place. `hm`: the module
balance moves at least with that pool's stake and the undelegations. -/
theorem Inv.setPool {s s' : St} {v : Nat} {p p' : Pool} (h : Inv s) (hf : findPool s v = some p)
    (hp : s'.pools = setPool s.pools p') (hl : s'.lastPoolId = s.lastPoolId) (hv : p'.val = p.val) (hi : p'.id = p.id)
    (hown : ∀ d : Denom, d.pool = p.id → get s'.bank.supply d = get p'.shares d)
    (hoth : ∀ d : Denom, d.pool ≠ 0 → d.pool ≠ p.id → get s'.bank.supply d = get s.bank.supply d)
    (hm : ∀ d : Denom, get p'.stake d + undelSum s'.undels d + s.bank.balance .ms d ≤
      get p.stake d + undelSum s.undels d + s'.bank.balance .ms d) : Inv s' := by
  have hpm := findPool_mem hf
  have hpi := h.ids p hpm.1
  have hmem : ∀ q ∈ s'.pools, q = p' ∨ (q ∈ s.pools ∧ Distinct p q) := fun q hq =>
    mem_setPool hf h.distinct (hv.trans hpm.2) (hp ▸ hq)
  refine { share := ?_, ids := ?_, distinct := ?_, fresh := ?_, solv := ?_ }
  · intro q hq d hd
    rcases hmem q hq with rfl | ⟨hq', hne⟩
    · exact hown d (hd.trans hi)
    · have := (h.ids q hq').1
      rw [hoth d (by omega) (by rw [hd]; exact fun e => hne.2 e.symm)]
      exact h.share q hq' d hd
  · intro q hq
    rw [hl]
    rcases hmem q hq with rfl | ⟨hq', _⟩
    · rw [hi]; exact hpi
    · exact h.ids q hq'
  · rw [hp]; exact pairwise_setPool hf hv hi h.distinct
  · intro d hd
    rw [hl] at hd
    rw [hoth d (by omega) (by omega)]; exact h.fresh d hd
  · intro d
    rw [hp]
    have := stakeSum_setPool (p' := p') hf (hv.trans hpm.2) d
    have := h.solv d
    have := hm d
    omega

theorem inv_upsertPool {s s' : St} {sender val : Nat} {en : Bool} {c : Dec.D} (h : Inv s)
    (hu : upsertPool s sender val en c = some s') : Inv s' := by
  rcases upsertPool_some hu with ⟨p, hp, rfl⟩ | ⟨hp, rfl⟩
  · exact h.setPool hp rfl rfl rfl rfl (h.share p (findPool_mem hp).1) (fun _ _ _ => rfl) (fun _ => Nat.le_refl _)
  · -- a new pool with the next id, without stake or shares
    have hnew := setPool_new (s := s) (p' := { id := s.lastPoolId + 1, val := val, enabled := en, commission := c }) hp
    refine { share := fun q hq d hd => ?_, ids := fun q hq => ?_, distinct := ?_,
             fresh := fun d hd => h.fresh d (Nat.lt_of_succ_lt hd), solv := fun d => ?_ }
    · rcases mem_setPool_sub hq with rfl | hq
      · exact h.fresh d (by rw [hd]; exact Nat.lt_succ_self _)
      · exact h.share q hq d hd
    · rcases mem_setPool_sub hq with rfl | hq
      · exact ⟨Nat.succ_pos _, Nat.le_refl _⟩
      · exact ⟨(h.ids q hq).1, Nat.le_succ_of_le (h.ids q hq).2⟩
    · show (setPool s.pools _).Pairwise Distinct
      rw [hnew, List.pairwise_append]
      refine ⟨h.distinct, List.pairwise_singleton _ _, fun q hq r hr => ?_⟩
      rw [List.mem_singleton.mp hr]
      have hv : ¬ q.val = val := by simpa using List.find?_eq_none.mp hp q hq
      exact ⟨hv, Nat.ne_of_lt (Nat.lt_succ_of_le (h.ids q hq).2)⟩
    · show stakeSum (setPool s.pools _) d + undelSum s.undels d ≤ s.bank.balance .ms d
      rw [hnew, stakeSum_append]
      exact h.solv d

theorem inv_delegate {s s' : St} {who val : Nat} {amts : Coins} (h : Inv s)
    (hd : delegate s who val amts = some s') : Inv s' := by
  obtain ⟨p, pc, b1, b3, dl, g, rfl⟩ := delegate_some hd
  have hsup : ∀ d, get b3.supply d = get s.bank.supply d + get pc d := by
    intro d
    rw [Bank.send_supply g.issued, Bank.mint_supply, Bank.send_supply g.paid]
  refine h.setPool g.pool rfl rfl rfl rfl (fun d hd => ?_) (fun d _ hd => ?_) (fun d => ?_)
  · show get b3.supply d = get (addAll p.shares pc) d
    rw [hsup, get_addAll, h.share p (findPool_mem g.pool).1 d hd]
  · show get b3.supply d = get s.bank.supply d
    rw [hsup, get_poolCoins_other g.coins d hd]; rfl
  · show get (addAll p.stake amts) d + undelSum s.undels d + s.bank.balance .ms d ≤
      get p.stake d + undelSum s.undels d + b3.balance .ms d
    -- the stake arrives at the module account; minting the shares and passing them on does not touch it
    have h1 := Bank.send_bal_dst g.paid nofun d
    have h3 := Bank.send_bal_other g.issued (a := .ms) nofun nofun d
    rw [Bank.mint_bal_other b1 .mint pc (a := .ms) nofun d] at h3
    rw [get_addAll]; omega

theorem inv_undelegate {s s' : St} {who val : Nat} {amts : Coins} (h : Inv s)
    (hu : undelegate s who val amts = some s') : Inv s' := by
  obtain ⟨p, pc, b1, b2, stake', shares', g, rfl⟩ := undelegate_some hu
  have hsup : ∀ d, get b2.supply d + get pc d = get s.bank.supply d := by
    intro d
    rw [← Bank.send_supply g.sent]; exact Bank.burn_supply g.burnt d
  refine h.setPool g.pool rfl rfl rfl rfl (fun d hd => ?_) (fun d _ hd => ?_) (fun d => ?_)
  · show get b2.supply d = get shares' d
    have := hsup d
    have := get_subAll g.shares d
    have := h.share p (findPool_mem g.pool).1 d hd
    omega
  · show get b2.supply d = get s.bank.supply d
    have := hsup d
    rw [get_poolCoins_other g.coins d hd] at this
    exact this
  · show get stake' d + undelSum (s.undels ++ _) d + s.bank.balance .ms d ≤
      get p.stake d + undelSum s.undels d + b2.balance .ms d
    -- the shares arrive at the module account and are burnt there
    have h1 := Bank.send_bal_dst g.sent nofun d
    have h2 := Bank.burn_bal_src g.burnt d
    have := get_subAll g.stake d
    rw [undelSum_append]
    simp only [undelSum]
    omega

theorem inv_slash {s s' : St} {val : Nat} {sl : Dec.D} (h : Inv s) (hs : slash s val sl = some s') : Inv s' := by
  rcases slash_some hs with ⟨_, rfl⟩ | ⟨p, stake', slashed, b1, b2, g, rfl⟩
  · exact h
  have hsup : ∀ d : Denom, d.pool ≠ 0 → get b2.supply d = get s.bank.supply d := by
    intro d hd
    have := Bank.burn_supply g.burnt d
    rw [get_ukex_of_share hd] at this
    rw [Bank.send_supply g.sent]; exact this
  refine h.setPool g.pool rfl rfl rfl rfl (fun d hd => ?_) (fun d hd _ => hsup d hd) (fun d => ?_)
  · have := (h.ids p (findPool_mem g.pool).1).1
    exact (hsup d (by omega)).trans (h.share p (findPool_mem g.pool).1 d hd)
  · -- the module account loses exactly what is taken off the record: ukex is burnt, the rest goes to the fee collector
    show get stake' d + undelSum s.undels d + s.bank.balance .ms d ≤ get p.stake d + undelSum s.undels d + b2.balance .ms d
    have h1 := Bank.burn_bal_src g.burnt d
    have h2 := Bank.send_bal_src g.sent nofun d
    have := get_ukex_add_rest slashed d
    have := get_subAll g.taken d
    omega

theorem inv_claimUndel {s s' : St} {who id : Nat} (h : Inv s) (hc : claimUndel s who id = some s') : Inv s' := by
  obtain ⟨u, b, g, rfl⟩ := claimUndel_some hc
  refine h.of_bank rfl rfl (fun d _ => by rw [← Bank.send_supply g.paid]) (fun d => ?_)
  show undelSum (s.undels.filter _) d + s.bank.balance .ms d ≤ undelSum s.undels d + b.balance .ms d
  have := undelSum_filter g.found d
  have hb' := Bank.send_bal_src g.paid nofun d
  omega

theorem inv_claimMatured {s s' : St} {who : Nat} (h : Inv s) (hc : claimMatured s who = some s') : Inv s' := by
  obtain ⟨b, keep, haux, rfl⟩ := claimMatured_some hc
  obtain ⟨hs, hm⟩ := claimMaturedAux_effect haux
  refine h.of_bank rfl rfl (fun d _ => by rw [← hs]) (fun d => ?_)
  have := hm d
  show undelSum keep d + s.bank.balance .ms d ≤ undelSum s.undels d + b.balance .ms d
  omega

theorem Inv.can_claim {s : St} (h : Inv s) {id : Nat} {u : Undel} (hu : s.undels.find? (fun u => u.id == id) = some u)
    (ht : u.expiry ≤ s.now) : ∃ s', claimUndel s u.owner id = some s' := by
  have hcov : ∀ d, get u.amount d ≤ s.bank.balance .ms d := by
    intro d
    have h1 := h.solv d
    have h2 := undelSum_filter hu d
    omega
  obtain ⟨b, hb⟩ := Bank.send_of_ge s.bank .ms (.user u.owner) u.amount hcov
  refine ⟨{ s with bank := b, undels := s.undels.filter (fun u => u.id != id) }, ?_⟩
  unfold claimUndel
  rw [hu]
  simp only [ne_eq, not_true_eq_false, if_false]
  rw [if_neg (by omega), hb]

theorem inv_closed : Closed Inv :=
  { congr := fun h hb hp hl hu _ _ _ => h.congr hb hp hl hu
    bank := fun h hs hm => h.of_bank rfl rfl hs (fun d => Nat.add_le_add_left (hm d) _)
    delegate := inv_delegate }

theorem Inv.mintNative {s : St} {a : Acct} {n : Nat} (h : Inv s) : Inv { s with bank := s.bank.mint a [(ukex, n)] } :=
  inv_closed.mintNative h

theorem inv_step {s : St} (op : Op) (h : Inv s) : Inv (step s op) :=
  inv_closed.step Inv.congr inv_upsertPool inv_undelegate inv_slash inv_claimUndel inv_claimMatured op h

theorem inv_run {s : St} (ops : List Op) (h : Inv s) : Inv (run s ops) :=
  List.foldlRecOn ops step h fun _ hs op _ => inv_step op hs

end Sekai.MultiStake
