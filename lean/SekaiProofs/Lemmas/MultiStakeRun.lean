import Sekai.Model.Distr
/-! The histories the C10 theorems quantify over, defined on the proof side: `Op`, `step`, `run = List.foldl step`.
`onSuccess s r` is `r.getD s` as a function of its own, so the `getD` lemmas of `Lemmas/Fold` do not apply to `step`;
`onSuccess_cases` is this family's case principle. -/
namespace Sekai.MultiStake

/-- Three operations of the model are not constructors. `l2Burn` on purpose: it changes the bank, so it is no `env`, and it breaks
`Inv.share` (C10 `l2_burn_share_supply_counterexample`). `upsertTok` and `registerTok` change `toks` only when they succeed: they
are `env` steps, and their own rule is `capsOk` (C10, the token registry's stake-cap rule). -/
inductive Op
  | upsert (sender val : Nat) (enabled : Bool) (commission : Dec.D)
  | delegate (who val : Nat) (amts : Coins)
  | undelegate (who val : Nat) (amts : Coins)
  | slash (val : Nat) (sl : Dec.D)
  | claimUndel (who id : Nat)
  | claimMatured (who : Nat)
  | claimRewards (who : Nat)
  | transfer (src dst : Nat) (c : Coins)          -- any coins, share tokens included, between user accounts
  | payFee (src : Nat) (c : Coins)
  | setCompound (who : Nat) (all : Bool) (denoms : List Denom)
  | register (who : Nat)                          -- RegisterDelegator
  | poolRewards (val : Nat) (rewards : Coins)     -- IncreasePoolRewards on the stored pool of `val`
  | allocate (prev : Nat)
  | beginBlock (h t proposer : Nat) (commit : List Nat)
  | endBlock
  | env (f : St → St) (hb : ∀ s, (f s).bank = s.bank) (hp : ∀ s, (f s).pools = s.pools)
        (hl : ∀ s, (f s).lastPoolId = s.lastPoolId) (hu : ∀ s, (f s).undels = s.undels)
        -- any change of context / environment (time, height, token registry, validator status, properties,
        -- vote records, snapshots …) that leaves bank, pools and undelegations alone

def onSuccess (s : St) (r : Option St) : St :=
  match r with
  | some s' => s'
  | none => s

/-- one op with write-on-success (an error or a recovered panic leaves the state unchanged) -/
def step (s : St) : Op → St
  | .upsert a v e c => onSuccess s (upsertPool s a v e c)
  | .delegate a v c => onSuccess s (delegate s a v c)
  | .undelegate a v c => onSuccess s (undelegate s a v c)
  | .slash v sl => onSuccess s (slash s v sl)
  | .claimUndel a id => onSuccess s (claimUndel s a id)
  | .claimMatured a => onSuccess s (claimMatured s a)
  | .claimRewards a => onSuccess s (claimRewards s a)
  | .transfer a b c => onSuccess s (transfer s a b c)
  | .payFee a c => onSuccess s (payFee s a c)
  | .setCompound a all ds => setCompoundInfo s a all ds
  | .register a => onSuccess s (registerDelegator s a)
  | .poolRewards v rw =>
    match findPool s v with
    | some p => onSuccess s (increasePoolRewards s p rw)
    | none => s
  | .allocate prev => onSuccess s (allocate s prev)
  | .beginBlock h t p c => onSuccess s (beginBlock s h t p c)
  | .endBlock => endBlock s
  | .env f _ _ _ _ => f s

def run (s : St) (ops : List Op) : St := ops.foldl step s

theorem onSuccess_cases {P : St → Prop} {s : St} {r : Option St} (h0 : P s) (h : ∀ s', r = some s' → P s') :
    P (onSuccess s r) := by
  cases r with
  | some s' => exact h s' rfl
  | none => exact h0

end Sekai.MultiStake
