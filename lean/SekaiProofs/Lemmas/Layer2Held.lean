import SekaiProofs.Lemmas.Layer2Store
/-! The escrow inequality of the layer-2 model, where the message level (`Layer2Good`) and the keeper level (`Layer2LP`) meet:
what the dApp records claim from the module (`contrib`, `nativeTotal`) under `setDapp` / `delDapp`, `Held`, `HeldK`, and the
standing hypothesis `NativeNotLp`. -/
namespace Sekai.Layer2

/-- what a dApp record claims from the module in denom `nat` -/
def contrib (nat : Bytes) (d : Dapp) : Int := if d.bondDenom = nat then d.bond else 0

def nativeTotal : List Dapp → Bytes → Int
  | [], _ => 0
  | d :: ds, nat => contrib nat d + nativeTotal ds nat

theorem nativeTotal_cons (d : Dapp) (ds : List Dapp) (nat : Bytes) : nativeTotal (d :: ds) nat = contrib nat d + nativeTotal ds nat := rfl

theorem nativeTotal_setDapp (ds : List Dapp) (r : Dapp) (nat : Bytes) :
    nativeTotal (setDapp ds r) nat = nativeTotal ds nat - ((findDapp ds r.name).map (contrib nat)).getD 0 + contrib nat r := by
  induction ds with
  | nil => simp [setDapp, findDapp, nativeTotal]
  | cons x xs ih =>
    unfold setDapp
    rw [findDapp_cons]
    by_cases hx : x.name = r.name
    · rw [if_pos hx, if_pos hx, nativeTotal_cons, nativeTotal_cons]
      simp only [Option.map_some, Option.getD_some]
      omega
    · rw [if_neg hx, if_neg hx, nativeTotal_cons, nativeTotal_cons, ih]
      omega

theorem nativeTotal_delDapp {ds : List Dapp} (hn : (names ds).Nodup) (n nat : Bytes) :
    nativeTotal (delDapp ds n) nat = nativeTotal ds nat - ((findDapp ds n).map (contrib nat)).getD 0 := by
  induction ds with
  | nil => rfl
  | cons x xs ih =>
    obtain ⟨hx', hn'⟩ : x.name ∉ names xs ∧ (names xs).Nodup := List.nodup_cons.mp hn
    rw [findDapp_cons, nativeTotal_cons]
    by_cases hx : x.name = n
    · -- unique names: no record of the tail goes with the head
      have hall : delDapp xs n = xs :=
        List.filter_eq_self.mpr (fun a ha => by
          simpa using fun (h : a.name = n) => hx' (hx.trans h.symm ▸ List.mem_map.mpr ⟨a, ha, rfl⟩))
      rw [if_pos hx, show delDapp (x :: xs) n = delDapp xs n by simp [delDapp, hx], hall]
      show _ = _ - contrib nat x
      omega
    · rw [if_neg hx, show delDapp (x :: xs) n = x :: delDapp xs n by simp [delDapp, hx], nativeTotal_cons, ih hn']
      omega

/-- the escrow: the module holds at least what the dApp records claim in the native denom -/
def Held (s : St) : Prop := nativeTotal s.dapps s.P.native ≤ s.bank.bal .l2 s.P.native

/-- `Held` with unique names: the hypothesis of the keeper-level theorem `pool_bond_held_keeper`. The names are carried because
every `Good` state has them (`Good.heldK`) and `setDapp` keeps them; the escrow argument uses `Held` only (`held_setDapp`). -/
def HeldK (s : St) : Prop := (names s.dapps).Nodup ∧ Held s

/-- Used by launch, re-labelling and both keeper calls. No unique names needed: `setDapp` replaces the record that `findDapp` finds. -/
theorem held_setDapp {s : St} {d r : Dapp} {bk : Bank} (hH : Held s) (hf : findDapp s.dapps r.name = some d)
    (hc : contrib s.P.native r - contrib s.P.native d ≤ bk.bal .l2 s.P.native - s.bank.bal .l2 s.P.native) :
    Held { s with bank := bk, dapps := setDapp s.dapps r } := by
  unfold Held at hH ⊢
  show nativeTotal (setDapp s.dapps r) s.P.native ≤ bk.bal .l2 s.P.native
  rw [nativeTotal_setDapp, hf]
  show _ - contrib s.P.native d + _ ≤ _
  omega

/-- the native denom is not of the form `lp/…`: else minting, burning or paying out LP tokens would move the module's native
balance, which `Held` is about -/
def NativeNotLp (P : Params) : Prop := ∀ x, lpOf x ≠ P.native

end Sekai.Layer2
