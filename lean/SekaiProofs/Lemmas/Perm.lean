import Sekai.Model.Perm
import SekaiProofs.Lemmas.Fold
import SekaiProofs.Lemmas.Lookup
/-! Reading the permission map after its passes, the four edits of a `Perms` record, `Step` (the graph of `step`), the keeper's
index writes, and how an index and the records it mirrors change together. -/
namespace Sekai.Perm
open Sekai.Fold

theorem get_set (m : PMap) (k : Nat) (v : Bool) (p : Nat) :
    (m.set k v).get? p = if k = p then some v else m.get? p := rfl

theorem get_setAll (m : PMap) (ks : List Nat) (v : Bool) (p : Nat) :
    (setAll m ks v).get? p = if p ∈ ks then some v else m.get? p := by
  simpa [setAll] using read_foldl (fun m k => m.set k v) (·.get? p) (some v) (· = p) (fun m k => get_set m k v p) ks m

/-- one pass of `check` over the roles -/
theorem get_foldl_roles (sel : Perms → List Nat) (v : Bool) (roles : List Perms) (m : PMap) (p : Nat) :
    (roles.foldl (fun m r => setAll m (sel r) v) m).get? p =
      if ∃ r ∈ roles, p ∈ sel r then some v else m.get? p :=
  read_foldl _ (·.get? p) (some v) (p ∈ sel ·) (fun m r => get_setAll m (sel r) v p) roles m

/-- the counterpart of `List.forall_mem_filterMap`, for `rolePermsOf` -/
theorem exists_mem_filterMap {α β} {f : α → Option β} {l : List α} {P : β → Prop} :
    (∃ b ∈ l.filterMap f, P b) ↔ ∃ a ∈ l, ∃ b, f a = some b ∧ P b := by
  simp only [List.mem_filterMap]
  exact ⟨fun ⟨b, ⟨a, ha, h⟩, hp⟩ => ⟨a, ha, b, h, hp⟩, fun ⟨a, ha, b, h, hp⟩ => ⟨b, ⟨a, ha, h⟩, hp⟩⟩

theorem checkAllowed_congr {s t : St} (ha : ∀ a, s.actors a = t.actors a) (hr : ∀ r, s.roleReg r = t.roleReg r)
    (a p : Nat) : checkAllowed s a p = checkAllowed t a p := by
  unfold checkAllowed rolePermsOf
  rw [ha, funext hr]

theorem addWl_eq_some {ps ps' : Perms} {p : Nat} :
    ps.addWl p = some ps' ↔ p ∉ ps.bl ∧ p ∉ ps.wl ∧ ps' = { ps with wl := ps.wl ++ [p] } := by
  unfold Perms.addWl
  by_cases hb : p ∈ ps.bl <;> by_cases hw : p ∈ ps.wl <;> simp [hb, hw, eq_comm]
theorem addBl_eq_some {ps ps' : Perms} {p : Nat} :
    ps.addBl p = some ps' ↔ p ∉ ps.wl ∧ p ∉ ps.bl ∧ ps' = { ps with bl := ps.bl ++ [p] } := by
  unfold Perms.addBl
  by_cases hb : p ∈ ps.bl <;> by_cases hw : p ∈ ps.wl <;> simp [hb, hw, eq_comm]
theorem rmWl_eq_some {ps ps' : Perms} {p : Nat} :
    ps.rmWl p = some ps' ↔ p ∈ ps.wl ∧ ps' = { ps with wl := ps.wl.erase p } := by
  unfold Perms.rmWl
  by_cases hw : p ∈ ps.wl <;> simp [hw, eq_comm]
theorem rmBl_eq_some {ps ps' : Perms} {p : Nat} :
    ps.rmBl p = some ps' ↔ p ∈ ps.bl ∧ ps' = { ps with bl := ps.bl.erase p } := by
  unfold Perms.rmBl
  by_cases hw : p ∈ ps.bl <;> simp [hw, eq_comm]

/-- the six operations of `step` that concern a role `r` look it up first and fail if it is not registered -/
theorem role_found {s s' : St} {r : Nat} {F : Perms → Option St}
    (h : (match s.roleReg r with | none => none | some ps => F ps) = some s') :
    ∃ ps, s.roleReg r = some ps ∧ F ps = some s' := by
  split at h
  · cases h
  next ps hr => exact ⟨ps, hr, h⟩

/-- an accepted operation: the guards that held and the state written (`Step.of_step`) -/
inductive Step (s : St) : Op → St → Prop
  | wlAcct {a p ps'} : (actorOrDefault s a).perms.addWl p = some ps' →
      Step s (.wlAcct a p) { setActor s a { actorOrDefault s a with perms := ps' } with
        idxPermAddr := (p, a) :: s.idxPermAddr.filter (· ≠ (p, a)) }
  | blAcct {a p ps'} : (actorOrDefault s a).perms.addBl p = some ps' →
      Step s (.blAcct a p) (setActor s a { actorOrDefault s a with perms := ps' })
  | rmWlAcct {a p ps'} : (actorOrDefault s a).perms.rmWl p = some ps' →
      Step s (.rmWlAcct a p) { setActor s a { actorOrDefault s a with perms := ps' } with
        idxPermAddr := s.idxPermAddr.filter (· ≠ (p, a)) }
  | rmBlAcct {a p ps'} : (actorOrDefault s a).perms.rmBl p = some ps' →
      Step s (.rmBlAcct a p) (setActor s a { actorOrDefault s a with perms := ps' })
  | assign {a r ps} : s.roleReg r = some ps → r ∉ (actorOrDefault s a).roles →
      Step s (.assign a r) { setActor s a { actorOrDefault s a with roles := (actorOrDefault s a).roles ++ [r] } with
        idxRoleAddr := (r, a) :: s.idxRoleAddr.filter (· ≠ (r, a)) }
  | unassign {a r ps} : s.roleReg r = some ps → r ∈ (actorOrDefault s a).roles →
      Step s (.unassign a r) { setActor s a { actorOrDefault s a with roles := (actorOrDefault s a).roles.erase r } with
        idxRoleAddr := s.idxRoleAddr.filter (· ≠ (r, a)) }
  | createRole : Step s .createRole { setRole s s.nextRole {} with nextRole := s.nextRole + 1 }
  | wlRole {r p ps ps'} : s.roleReg r = some ps → ps.addWl p = some ps' →
      Step s (.wlRole r p) { setRole s r ps' with idxPermRole := (p, r) :: s.idxPermRole.filter (· ≠ (p, r)) }
  | blRole {r p ps ps'} : s.roleReg r = some ps → ps.addBl p = some ps' → Step s (.blRole r p) (setRole s r ps')
  | rmWlRole {r p ps ps'} : s.roleReg r = some ps → ps.rmWl p = some ps' →
      Step s (.rmWlRole r p) { setRole s r ps' with idxPermRole := s.idxPermRole.filter (· ≠ (p, r)) }
  | rmBlRole {r p ps ps'} : s.roleReg r = some ps → ps.rmBl p = some ps' → Step s (.rmBlRole r p) (setRole s r ps')

theorem Step.of_step {s s' : St} {op : Op} (h : step s op = some s') : Step s op s' := by
  cases op with
  | wlAcct a p => obtain ⟨ps', h1, rfl⟩ := Option.map_eq_some_iff.mp h; exact .wlAcct h1
  | blAcct a p => obtain ⟨ps', h1, rfl⟩ := Option.map_eq_some_iff.mp h; exact .blAcct h1
  | rmWlAcct a p => obtain ⟨ps', h1, rfl⟩ := Option.map_eq_some_iff.mp h; exact .rmWlAcct h1
  | rmBlAcct a p => obtain ⟨ps', h1, rfl⟩ := Option.map_eq_some_iff.mp h; exact .rmBlAcct h1
  | assign a r =>
    obtain ⟨ps, hr, h⟩ := role_found h
    obtain ⟨hc, h⟩ := Option.ite_none_left_eq_some.mp h
    cases h
    exact .assign hr (by simpa using hc)
  | unassign a r =>
    obtain ⟨ps, hr, h⟩ := role_found h
    obtain ⟨hc, h⟩ := Option.ite_none_left_eq_some.mp h
    cases h
    exact .unassign hr (by simpa using hc)
  | createRole => cases h; exact .createRole
  | wlRole r p =>
    obtain ⟨ps, hr, h⟩ := role_found h
    obtain ⟨ps', h1, rfl⟩ := Option.map_eq_some_iff.mp h
    exact .wlRole hr h1
  | blRole r p =>
    obtain ⟨ps, hr, h⟩ := role_found h
    obtain ⟨ps', h1, rfl⟩ := Option.map_eq_some_iff.mp h
    exact .blRole hr h1
  | rmWlRole r p =>
    obtain ⟨ps, hr, h⟩ := role_found h
    obtain ⟨ps', h1, rfl⟩ := Option.map_eq_some_iff.mp h
    exact .rmWlRole hr h1
  | rmBlRole r p =>
    obtain ⟨ps, hr, h⟩ := role_found h
    obtain ⟨ps', h1, rfl⟩ := Option.map_eq_some_iff.mp h
    exact .rmBlRole hr h1

/-! the two index writes of the keeper -/

theorem mem_cons_filter {α} [DecidableEq α] (x y : α) (l : List α) :
    y ∈ x :: l.filter (· ≠ x) ↔ y = x ∨ y ∈ l := by
  simp only [List.mem_cons, List.mem_filter, decide_eq_true_eq]
  by_cases h : y = x <;> simp [h]

theorem mem_filter_ne {α} [DecidableEq α] (x y : α) (l : List α) :
    y ∈ l.filter (· ≠ x) ↔ y ≠ x ∧ y ∈ l := by
  simp only [List.mem_filter, decide_eq_true_eq]; exact And.comm

/-- the entries filed under key `k`, as `voters` reads them -/
theorem mem_slice (idx : List (Nat × Nat)) (k a : Nat) :
    a ∈ (idx.filter (fun e => e.1 == k)).map (·.2) ↔ (k, a) ∈ idx := by
  simp only [List.mem_map, List.mem_filter, beq_iff_eq]
  exact ⟨fun ⟨e, ⟨he, h1⟩, h2⟩ => by rw [← h1, ← h2]; exact he, fun h => ⟨(k, a), ⟨h, rfl⟩, rfl⟩⟩

/-- An edit under key `a` that takes the index `idx` to `idx'` and the list `l`, which `idx` mirrors for `a`, to `l'`
keeps the two together. Every edit operation does one of three things to an index and its list: nothing, insert, delete. -/
def Tracks (a : Nat) (idx idx' : List (Nat × Nat)) (l l' : List Nat) : Prop :=
  (∀ k, (k, a) ∈ idx ↔ k ∈ l) → l.Nodup →
    (∀ k b, (k, b) ∈ idx' ↔ if b = a then k ∈ l' else (k, b) ∈ idx) ∧ l'.Nodup

theorem Tracks.same {a : Nat} {idx : List (Nat × Nat)} {l : List Nat} : Tracks a idx idx l l := by
  refine fun h hn => ⟨fun k b => ?_, hn⟩
  by_cases hb : b = a
  · simp [hb, h]
  · simp [hb]

theorem Tracks.insert {a : Nat} {idx : List (Nat × Nat)} {l : List Nat} {k : Nat} (hk : k ∉ l) :
    Tracks a idx ((k, a) :: idx.filter (· ≠ (k, a))) l (l ++ [k]) := by
  refine fun h hn => ⟨fun q b => ?_, nodup_append_singleton hn hk⟩
  rw [mem_cons_filter]
  by_cases hb : b = a
  · simp [hb, h, Or.comm]
  · simp [hb]

/-- deleting needs the list duplicate-free: `erase` removes one occurrence, the index write all of them -/
theorem Tracks.delete {a : Nat} {idx : List (Nat × Nat)} {l : List Nat} {k : Nat} :
    Tracks a idx (idx.filter (· ≠ (k, a))) l (l.erase k) := by
  refine fun h hn => ⟨fun q b => ?_, hn.erase k⟩
  rw [mem_filter_ne]
  by_cases hb : b = a
  · simp [hb, h, hn.mem_erase_iff]
  · simp [hb]

theorem addWl_tracks {ps ps' : Perms} {p : Nat} (h : ps.addWl p = some ps') {a : Nat} {idx : List (Nat × Nat)} :
    Tracks a idx ((p, a) :: idx.filter (· ≠ (p, a))) ps.wl ps'.wl := by
  obtain ⟨_, hw, rfl⟩ := addWl_eq_some.mp h; exact .insert hw
theorem rmWl_tracks {ps ps' : Perms} {p : Nat} (h : ps.rmWl p = some ps') {a : Nat} {idx : List (Nat × Nat)} :
    Tracks a idx (idx.filter (· ≠ (p, a))) ps.wl ps'.wl := by
  obtain ⟨_, rfl⟩ := rmWl_eq_some.mp h; exact .delete
theorem addBl_tracks {ps ps' : Perms} {p : Nat} (h : ps.addBl p = some ps') {a : Nat} {idx : List (Nat × Nat)} :
    Tracks a idx idx ps.wl ps'.wl := by
  obtain ⟨_, _, rfl⟩ := addBl_eq_some.mp h; exact .same
theorem rmBl_tracks {ps ps' : Perms} {p : Nat} (h : ps.rmBl p = some ps') {a : Nat} {idx : List (Nat × Nat)} :
    Tracks a idx idx ps.wl ps'.wl := by
  obtain ⟨_, rfl⟩ := rmBl_eq_some.mp h; exact .same

/-! The keeper reads a record as `(f a).getD d` (the stored one or an empty default) and writes it back as in `setActor` /
`setRole`. -/

theorem forall_getD {α} {P : α → Prop} {f : Nat → Option α} {d : α} (hd : P d) (h : ∀ b x, f b = some x → P x)
    (a : Nat) : P ((f a).getD d) := by
  cases e : f a with
  | none => exact hd
  | some x => exact h a x e

theorem forall_update {α} {P : α → Prop} {f : Nat → Option α} {a : Nat} {x' : α} (hx : P x')
    (h : ∀ b x, f b = some x → P x) (b : Nat) (x : α) (hb : (if b = a then some x' else f b) = some x) : P x := by
  by_cases hba : b = a
  · simp [hba] at hb; exact hb ▸ hx
  · simp [hba] at hb; exact h b x hb

/-- what the invariant of the edit operations says of each of the three indexes and the records it is kept for -/
structure Mirrors {β} (idx : List (Nat × Nat)) (f : Nat → Option β) (sel : β → List Nat) : Prop where
  mem : ∀ k a, (k, a) ∈ idx ↔ ∃ x, f a = some x ∧ k ∈ sel x
  nodup : ∀ a x, f a = some x → (sel x).Nodup

theorem Mirrors.update {β} {idx idx' : List (Nat × Nat)} {f : Nat → Option β} {sel : β → List Nat}
    (h : Mirrors idx f sel) (a : Nat) (x' d : β) (hd : sel d = [])
    (ht : Tracks a idx idx' (sel ((f a).getD d)) (sel x')) :
    Mirrors idx' (fun b => if b = a then some x' else f b) sel := by
  obtain ⟨hi, hn⟩ := ht (fun k => by rw [h.mem]; cases f a <;> simp [hd])
    (forall_getD (P := fun x => (sel x).Nodup) (by simp [hd]) h.nodup a)
  refine ⟨fun k b => ?_, forall_update hn h.nodup⟩
  rw [hi]
  by_cases hb : b = a
  · simp [hb]
  · simp [hb, h.mem]

end Sekai.Perm
