import Sekai.Model.PermGenesis
import SekaiProofs.Lemmas.Perm
/-! Genesis import of the permission state, phase by phase (`init_phases`: what `init` makes of a well-formed genesis file),
and the lists `exportGen` writes. The round trip `init (exportGen …)` itself is stated over the invariant of C07, up to `Equiv`
(same records, same index sets, same counter; defined here), and stands with its witnesses in `Props/C12.lean`. -/
namespace Sekai.PermGenesis
open Sekai.Perm Sekai.Fold

/-- observational equality of permission states: same records, same index SETS, same counter -/
structure Equiv (s t : Sekai.Perm.St) : Prop where
  actors : ∀ a, s.actors a = t.actors a
  roles : ∀ r, s.roleReg r = t.roleReg r
  permAddr : ∀ e, e ∈ s.idxPermAddr ↔ e ∈ t.idxPermAddr
  roleAddr : ∀ e, e ∈ s.idxRoleAddr ↔ e ∈ t.idxRoleAddr
  permRole : ∀ e, e ∈ s.idxPermRole ↔ e ∈ t.idxPermRole
  next : s.nextRole = t.nextRole

theorem mem_foldl_idx (a : Nat) (l : List Nat) (idx : List (Nat × Nat)) (e : Nat × Nat) :
    e ∈ l.foldl (fun idx r => (r, a) :: idx.filter (· ≠ (r, a))) idx ↔ e ∈ idx ∨ (e.2 = a ∧ e.1 ∈ l) := by
  refine (mem_foldl_iff _ (fun idx => idx) (fun r e => e.2 = a ∧ e.1 = r) (fun idx r e => ?_) l idx e).trans
    (or_congr_right ⟨fun ⟨r, hr, h1, h2⟩ => ⟨h1, h2 ▸ hr⟩, fun ⟨h1, h2⟩ => ⟨e.1, h2, h1, rfl⟩⟩)
  show e ∈ (r, a) :: idx.filter (· ≠ (r, a)) ↔ e ∈ idx ∨ (e.2 = a ∧ e.1 = r)
  rw [mem_cons_filter, Or.comm, Prod.ext_iff, and_comm]

/-- `u` is `s` after InitGenesis has saved the actors `L`: registry, role-whitelist index (`idxPermRole`) and counter untouched,
for each listed id an entry of `L` stored (the last one, which the field does not say), for every entry of `L` its whitelist entries added
to `idxPermAddr`, its role entries to `idxRoleAddr` -/
structure ActorsPhase (L : List (Nat × Actor)) (s u : St) : Prop where
  roleReg : u.roleReg = s.roleReg
  idxPermRole : u.idxPermRole = s.idxPermRole
  nextRole : u.nextRole = s.nextRole
  actors : ∀ a, (∃ ax ∈ L, a = ax.1 ∧ u.actors a = some ax.2) ∨ ((∀ ax ∈ L, a ≠ ax.1) ∧ u.actors a = s.actors a)
  permAddr : ∀ e, e ∈ u.idxPermAddr ↔ e ∈ s.idxPermAddr ∨ ∃ x, (e.2, x) ∈ L ∧ e.1 ∈ x.perms.wl
  roleAddr : ∀ e, e ∈ u.idxRoleAddr ↔ e ∈ s.idxRoleAddr ∨ ∃ x, (e.2, x) ∈ L ∧ e.1 ∈ x.roles

theorem actorsPhase (L : List (Nat × Actor)) (s : St) : ActorsPhase L s (L.foldl initActor s) := by
  -- either index field `proj`: `initActor` folds one index write per member of `sel x` into it (`mem_foldl_idx`)
  have idx (proj : St → List (Nat × Nat)) (sel : Actor → List Nat)
      (h : ∀ s ax, proj (initActor s ax) =
        (sel ax.2).foldl (fun idx k => (k, ax.1) :: idx.filter (· ≠ (k, ax.1))) (proj s)) (e : Nat × Nat) :
      e ∈ proj (L.foldl initActor s) ↔ e ∈ proj s ∨ ∃ x, (e.2, x) ∈ L ∧ e.1 ∈ sel x :=
    (mem_foldl_iff initActor proj (fun ax e => e.2 = ax.1 ∧ e.1 ∈ sel ax.2)
      (fun s ax e => by rw [h, mem_foldl_idx]) L s e).trans
      (or_congr_right ⟨fun ⟨⟨_, x⟩, hm, rfl, hp⟩ => ⟨x, hm, hp⟩, fun ⟨x, hm, hp⟩ => ⟨(e.2, x), hm, rfl, hp⟩⟩)
  exact {
    roleReg := foldl_keeps initActor St.roleReg (fun _ _ => rfl) L s
    idxPermRole := foldl_keeps initActor St.idxPermRole (fun _ _ => rfl) L s
    nextRole := foldl_keeps initActor St.nextRole (fun _ _ => rfl) L s
    actors := fun a => read_foldl_cases initActor (·.actors a) (some ·.2) (a = ·.1) (fun _ _ => rfl) L s
    permAddr := idx St.idxPermAddr (·.perms.wl) fun _ _ => rfl
    roleAddr := idx St.idxRoleAddr (·.roles) fun _ _ => rfl }

/-- `u` is `s` after InitGenesis has registered the role ids `R`, each with empty permissions; nothing else touched -/
structure RolesPhase (R : List Nat) (s u : St) : Prop where
  actors : u.actors = s.actors
  idxPermAddr : u.idxPermAddr = s.idxPermAddr
  idxRoleAddr : u.idxRoleAddr = s.idxRoleAddr
  idxPermRole : u.idxPermRole = s.idxPermRole
  nextRole : u.nextRole = s.nextRole
  roleReg : ∀ r, u.roleReg r = if r ∈ R then some {} else s.roleReg r

theorem rolesPhase (R : List Nat) (s : St) : RolesPhase R s (R.foldl initRole s) :=
  {
    actors := foldl_keeps initRole St.actors (fun _ _ => rfl) R s
    idxPermAddr := foldl_keeps initRole St.idxPermAddr (fun _ _ => rfl) R s
    idxRoleAddr := foldl_keeps initRole St.idxRoleAddr (fun _ _ => rfl) R s
    idxPermRole := foldl_keeps initRole St.idxPermRole (fun _ _ => rfl) R s
    nextRole := foldl_keeps initRole St.nextRole (fun _ _ => rfl) R s
    roleReg := fun r => by simpa using read_foldl initRole (·.roleReg r) (some {}) (r = ·) (fun _ _ => rfl) R s }

/-- `u` is `s` after the replay of the whitelist entries `l` onto role `r`, which has the whitelist `w` and no blacklist in `s`:
`r` ends with `w ++ l`, every entry of `l` is indexed, nothing else touched -/
structure ReplayOne (r : Nat) (w l : List Nat) (s u : St) : Prop where
  actors : u.actors = s.actors
  idxPermAddr : u.idxPermAddr = s.idxPermAddr
  idxRoleAddr : u.idxRoleAddr = s.idxRoleAddr
  nextRole : u.nextRole = s.nextRole
  self : u.roleReg r = some { wl := w ++ l, bl := [] }
  other : ∀ q, q ≠ r → u.roleReg q = s.roleReg q
  permRole : ∀ e, e ∈ u.idxPermRole ↔ e ∈ s.idxPermRole ∨ (e.2 = r ∧ e.1 ∈ l)

theorem apply_wlRole (s : St) (r p : Nat) (w : List Nat) (hr : s.roleReg r = some { wl := w, bl := [] })
    (hp : p ∉ w) :
    Perm.apply s (.wlRole r p) =
      { setRole s r { wl := w ++ [p], bl := [] } with
        idxPermRole := (p, r) :: s.idxPermRole.filter (· ≠ (p, r)) } := by
  simp [Perm.apply, step, hr, Perms.addWl, hp]

theorem replayOne (r : Nat) (w l : List Nat) (s : St) (hr : s.roleReg r = some { wl := w, bl := [] })
    (hn : (w ++ l).Nodup) :
    ReplayOne r w l s (l.foldl (fun s p => Perm.apply s (.wlRole r p)) s) := by
  induction l generalizing s w with
  | nil => exact { actors := rfl, idxPermAddr := rfl, idxRoleAddr := rfl, nextRole := rfl, self := by simpa using hr,
                   other := fun _ _ => rfl, permRole := by simp }
  | cons p l ih =>
    have hp : p ∉ w := fun hm => (List.nodup_append.mp hn).2.2 p hm p List.mem_cons_self rfl
    rw [List.foldl_cons, apply_wlRole s r p w hr hp]
    have h := ih (w ++ [p])
      { setRole s r ⟨w ++ [p], []⟩ with idxPermRole := (p, r) :: s.idxPermRole.filter (· ≠ (p, r)) }
      (by simp [setRole]) (by simpa using hn)
    -- the four frame fields of `h` speak of the state after the head's write, which differs from `s` in `roleReg` and
    -- `idxPermRole` only (`rfl`)
    refine { h with self := by simpa using h.self
                    other := fun q hq => by rw [h.other q hq]; simp [setRole, hq]
                    permRole := fun e => ?_ }
    rw [h.permRole e]
    show (e ∈ (p, r) :: s.idxPermRole.filter (· ≠ (p, r)) ∨ _) ↔ _
    rw [mem_cons_filter, Prod.ext_iff]
    -- an entry is new iff it is `(p, r)`, written first, or one of the tail's
    simp [and_or_left, and_comm, or_assoc, or_left_comm]

/-- `u` is `s` after the whitelist replay of all role-permission entries `RP` (roles registered empty in `s`): each listed role
ends with its whitelist and NO blacklist, its entries indexed; actors, their indexes and the counter untouched -/
structure PermsPhase (RP : List (Nat × Perms)) (s u : St) : Prop where
  actors : u.actors = s.actors
  idxPermAddr : u.idxPermAddr = s.idxPermAddr
  idxRoleAddr : u.idxRoleAddr = s.idxRoleAddr
  nextRole : u.nextRole = s.nextRole
  hit : ∀ r ps, (r, ps) ∈ RP → u.roleReg r = some { wl := ps.wl, bl := [] }
  miss : ∀ r, (∀ ps, (r, ps) ∉ RP) → u.roleReg r = s.roleReg r
  permRole : ∀ e, e ∈ u.idxPermRole ↔ e ∈ s.idxPermRole ∨ ∃ ps, (e.2, ps) ∈ RP ∧ e.1 ∈ ps.wl

theorem permsPhase (RP : List (Nat × Perms)) (s : St) (hk : (RP.map Prod.fst).Nodup)
    (hw : ∀ r ps, (r, ps) ∈ RP → ps.wl.Nodup) (he : ∀ r ps, (r, ps) ∈ RP → s.roleReg r = some {}) :
    PermsPhase RP s (RP.foldl initRolePerms s) := by
  induction RP generalizing s with
  | nil => exact { actors := rfl, idxPermAddr := rfl, idxRoleAddr := rfl, nextRole := rfl, hit := by simp,
                   miss := fun _ _ => rfl, permRole := by simp }
  | cons rp RP ih =>
    obtain ⟨r0, ps0⟩ := rp
    have hk' := List.nodup_cons.mp hk
    have hfresh : ∀ ps, (r0, ps) ∉ RP := fun ps hm => hk'.1 (List.mem_map.mpr ⟨(r0, ps), hm, rfl⟩)
    have h1 : ReplayOne r0 [] ps0.wl s (initRolePerms s (r0, ps0)) :=
      replayOne r0 [] ps0.wl s (he r0 ps0 List.mem_cons_self) (by simpa using hw r0 ps0 List.mem_cons_self)
    rw [List.foldl_cons]
    generalize initRolePerms s (r0, ps0) = s' at h1
    have h := ih s' hk'.2 (fun r ps hm => hw r ps (List.mem_cons_of_mem _ hm)) fun r ps hm => by
      rw [h1.other r fun e => hfresh ps (e ▸ hm)]; exact he r ps (List.mem_cons_of_mem _ hm)
    generalize RP.foldl initRolePerms s' = u at h
    refine { actors := h.actors.trans h1.actors, idxPermAddr := h.idxPermAddr.trans h1.idxPermAddr
             idxRoleAddr := h.idxRoleAddr.trans h1.idxRoleAddr, nextRole := h.nextRole.trans h1.nextRole
             hit := fun r ps hm => ?hit, miss := fun r hn => ?miss, permRole := fun e => ?permRole }
    case hit =>
      rcases List.mem_cons.mp hm with e | e
      · obtain ⟨rfl, rfl⟩ := Prod.mk.inj e
        rw [h.miss r hfresh, h1.self]; rfl
      · exact h.hit r ps e
    case miss =>
      rw [h.miss r fun ps hm => hn ps (List.mem_cons_of_mem _ hm),
        h1.other r fun e => hn ps0 (e ▸ List.mem_cons_self)]
    case permRole =>  -- an entry is new iff the head's replay wrote it or the tail's did
      simp [h.permRole e, h1.permRole e, or_and_right, exists_or, or_assoc, and_assoc]

theorem init_phases (g : Genesis) (hk : (g.rolePerms.map Prod.fst).Nodup)
    (hw : ∀ r ps, (r, ps) ∈ g.rolePerms → ps.wl.Nodup) (hr : ∀ r ps, (r, ps) ∈ g.rolePerms → r ∈ g.roles) :
    ∃ u1 u2, ActorsPhase g.actors { nextRole := g.nextRole } u1 ∧ RolesPhase g.roles u1 u2 ∧
      PermsPhase g.rolePerms u2 (init g) :=
  ⟨_, _, actorsPhase _ _, rolesPhase _ _, permsPhase _ _ hk hw fun r ps hm => by
    rw [(rolesPhase _ _).roleReg r, if_pos (hr r ps hm)]⟩

/-- the shape of `exportGen`'s `actors` and `rolePerms`: `f` is `s.actors` / `s.roleReg`, `ids` the key domain -/
theorem mem_export {β} (f : Nat → Option β) (ids : List Nat) (k : Nat) (v : β) :
    (k, v) ∈ (ids.filterMap fun a => (f a).map fun x => (a, x)) ↔ k ∈ ids ∧ f k = some v := by
  simp [List.mem_filterMap]

theorem export_keys {β} (f : Nat → Option β) (ids : List Nat) :
    (ids.filterMap fun a => (f a).map fun x => (a, x)).map Prod.fst = ids.filter fun a => (f a).isSome := by
  induction ids with
  | nil => rfl
  | cons a l ih => cases h : f a <;> simp [h, ih]

theorem mem_export_idx {β} (f : Nat → Option β) (sel : β → List Nat) (ids : List Nat) (hc : ∀ a, (f a).isSome → a ∈ ids)
    (idx : List (Nat × Nat)) (hidx : ∀ k a, (k, a) ∈ idx ↔ ∃ x, f a = some x ∧ k ∈ sel x) (e : Nat × Nat) :
    (∃ x, (e.2, x) ∈ (ids.filterMap fun a => (f a).map fun x => (a, x)) ∧ e.1 ∈ sel x) ↔ e ∈ idx := by
  obtain ⟨k, a⟩ := e
  simp only [hidx, mem_export]
  exact ⟨fun ⟨x, ⟨_, hx⟩, hk⟩ => ⟨x, hx, hk⟩, fun ⟨x, hx, hk⟩ => ⟨x, ⟨hc a (by simp [hx]), hx⟩, hk⟩⟩

end Sekai.PermGenesis
