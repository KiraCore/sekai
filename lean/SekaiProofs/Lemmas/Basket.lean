import SekaiProofs.Lemmas.BasketBank
import SekaiProofs.Lemmas.BasketTokens
/-! The list of basket records (`getBasket` / `setBasket`, what the records say the module owes); mint and burn: the
closed form of the state after a successful call, then the coins it has moved (with the arithmetic of a burn's portion);
the closed forms of what governance, the slash hooks and layer2 do to the module's state (`reconfig`, `edit`,
`withdrawSurplus1` rewrite one record; `claimModuleRewards`, `l2Burn` touch only the bank / the reward record); and the
case principle of `step`. Swaps are in `Lemmas/BasketSwap`. (The three facts about `Dec` on top are used by nothing; they
are kept under their names.) -/

namespace Sekai.Lemmas.Basket
open Sekai Sekai.Basket

theorem P_eq_two_half : Dec.P = 2 * Dec.half := by decide

theorem mul_ofInt' (a w : Int) : Dec.mul w (Dec.ofInt a) = a * w := by rw [Dec.mul_ofInt, Int.mul_comm]

theorem truncInt_nonneg (x : Int) (hx : 0 ≤ x) : 0 ≤ Dec.truncInt x := by
  have := Dec.truncInt_bounds hx
  simp only [Dec.P] at this
  omega

theorem getBasket_id {bs : List Basket} {id : Nat} {b : Basket} (h : getBasket bs id = some b) : b.id = id := by
  fun_induction getBasket bs id with
  | case1 => cases h                       -- no record left
  | case2 x xs => cases h; rfl             -- the first record has the id
  | case3 x xs id hx ih => exact ih h      -- it has another id: further down the list

theorem getBasket_setBasket (bs : List Basket) (nb : Basket) (id : Nat) :
    getBasket (setBasket bs nb) id = if nb.id = id then some nb else getBasket bs id := by
  fun_induction setBasket bs nb with
  | case1 => simp [getBasket]                                          -- no record with that id: appended
  | case2 x xs nb hx => simp only [getBasket, hx]; split <;> rfl       -- the first record has the id: overwritten
  | case3 x xs nb hx ih =>                                             -- it has another id: further down the list
    simp only [getBasket, ih]
    by_cases hn : nb.id = id
    · simp [hn, show ¬ x.id = id from hn ▸ hx]
    · simp [hn]

theorem getBasket_setBasket_self {bs : List Basket} {b nb : Basket} {id : Nat} (hb : getBasket bs id = some b)
    (hid : nb.id = b.id) : getBasket (setBasket bs nb) id = some nb := by
  rw [getBasket_setBasket, hid, getBasket_id hb, if_pos rfl]

/-- what basket `b` says the module owes in denom `d` -/
def owedB (b : Basket) (d : Denom) : Int := reserveOf b.tokens d + amountOf b.surplus d

def owed : List Basket → Denom → Int
  | [], _ => 0
  | b :: bs, d => owedB b d + owed bs d

theorem owed_setBasket {bs : List Basket} {ob nb : Basket} (d : Denom)
    (h : getBasket bs nb.id = some ob) : owed (setBasket bs nb) d = owed bs d - owedB ob d + owedB nb d := by
  fun_induction setBasket bs nb with
  | case1 => cases h                       -- no record with that id: excluded by `h`
  | case2 x xs nb hx =>                    -- the first record has the id: it is `ob`, overwritten
    simp only [getBasket, hx, if_true] at h
    cases h
    simp only [owed]; omega
  | case3 x xs nb hx ih =>                 -- it has another id: further down the list
    simp only [getBasket, hx, if_false] at h
    simp only [owed, ih h]; omega

/-! The inversions hold for any sender `a`; the `_effect` lemmas need a sender other than the module account and are
stated for `.user i`. (The idiom that dismisses the failing branches: DESIGN.md §A.8.) -/

/-- every guard of `mint`, in the order of the code -/
structure MintOk (s : St) (a : Acct) (id : Nat) (dep : Coins) (b : Basket) (v : Dec.D) (toks : List Token)
    (bank1 bank2 bank3 : Bank) : Prop where
  get : getBasket s.baskets id = some b
  enabled : b.mintsDisabled = false
  paidIn : s.bank.send a .module dep = some bank1
  value : mintValue b.tokens dep = some v
  nonneg : 0 ≤ Dec.truncInt v
  min : b.mintsMin ≤ Dec.truncInt v
  max : periodSum id s.now b.limitsPeriod (reg s.mintH id s.now (Dec.truncInt v)) ≤ b.mintsMax
  minted : bank1.mint ⟨b.denom, Dec.truncInt v⟩ = some bank2
  paidOut : bank2.send .module a [⟨b.denom, Dec.truncInt v⟩] = some bank3
  booked : incTokens b.tokens dep = some toks
  cap : capOk b.tokensCap toks = true

theorem mint_some {s s' : St} {a : Acct} {id : Nat} {dep : Coins} (h : mint s a id dep = some s') :
    ∃ b v toks bank1 bank2 bank3, MintOk s a id dep b v toks bank1 bank2 bank3 ∧
      s' = { s with bank := bank3, mintH := reg s.mintH id s.now (Dec.truncInt v),
                    baskets := setBasket s.baskets { b with tokens := toks, amount := b.amount + Dec.truncInt v } } := by
  revert h
  fun_cases mint s a id dep <;> try (intro h; cases h; done)
  next b hb hdis bank1 hb1 v hv m hm0 hmin hist hmax bank2 hb2 bank3 hb3 toks ht hcap =>   -- every check passed
    intro e; cases e
    exact ⟨b, v, toks, bank1, bank2, bank3,
      { get := hb, enabled := by simpa using hdis, paidIn := hb1, value := hv, nonneg := Int.not_lt.mp hm0,
        min := Int.not_lt.mp hmin, max := Int.not_lt.mp hmax, minted := hb2, paidOut := hb3, booked := ht, cap := hcap }, rfl⟩

/-- every guard of `burn`. `w` is what the burner receives; the supply its portion is measured against (`supply_ne`,
`withdrawn`) is read from `bank2`, after the burn -/
structure BurnOk (s : St) (a : Acct) (id : Nat) (c : Coin) (b : Basket) (toks : List Token)
    (bank1 bank2 bank3 : Bank) (w : Coins) : Prop where
  get : getBasket s.baskets id = some b
  enabled : b.burnsDisabled = false
  min : b.burnsMin ≤ c.amount
  max : periodSum id s.now b.limitsPeriod (reg s.burnH id s.now c.amount) ≤ b.burnsMax
  paidIn : s.bank.send a .module [c] = some bank1
  burnt : bank1.burn c = some bank2
  denom : c.denom = b.denom
  supply_ne : bank2.supplyOf c.denom ≠ 0
  withdrawn : w = addCoins [] (withdrawCoins (Dec.quo (Dec.ofInt c.amount) (Dec.ofInt (bank2.supplyOf c.denom))) b.tokens)
  nonempty : w.isEmpty = false
  paidOut : bank2.send .module a w = some bank3
  booked : decTokens b.tokens w = some toks
  cap : capOk b.tokensCap toks = true

theorem burn_some {s s' : St} {a : Acct} {id : Nat} {c : Coin} (h : burn s a id c = some s') :
    ∃ b toks bank1 bank2 bank3 w, BurnOk s a id c b toks bank1 bank2 bank3 w ∧
      s' = { s with bank := bank3, burnH := reg s.burnH id s.now c.amount,
                    baskets := setBasket s.baskets { b with tokens := toks, amount := b.amount - c.amount } } := by
  revert h
  fun_cases burn s a id c <;> try (intro h; cases h; done)
  next b hb hdis hmin hist hmax bank1 hb1 bank2 hb2 hden supply hsup portion w hw bank3 hb3 toks ht hcap =>   -- every check passed
    intro e; cases e
    exact ⟨b, toks, bank1, bank2, bank3, w,
      { get := hb, enabled := by simpa using hdis, min := Int.not_lt.mp hmin, max := Int.not_lt.mp hmax, paidIn := hb1,
        burnt := hb2, denom := by simpa using hden, supply_ne := hsup, withdrawn := rfl, nonempty := by simpa using hw,
        paidOut := hb3, booked := ht, cap := hcap }, rfl⟩

structure MintEffect (s s' : St) (i : Nat) (dep : Coins) (b : Basket) (v : Dec.D) (toks : List Token) : Prop where
  nonneg : (0 : Int) ≤ v
  baskets : s'.baskets = setBasket s.baskets { b with tokens := toks, amount := b.amount + Dec.truncInt v }
  reserves : ∀ d, reserveOf toks d = reserveOf b.tokens d + amountOf dep d
  value : totalVal toks = totalVal b.tokens + v
  supply : ∀ d, s'.bank.supplyOf d = s.bank.supplyOf d + (if b.denom = d then Dec.truncInt v else 0)
  module : ∀ d, s'.bank.balOf .module d = s.bank.balOf .module d + amountOf dep d
  user : ∀ d, s'.bank.balOf (.user i) d =
    s.bank.balOf (.user i) d - amountOf dep d + (if b.denom = d then Dec.truncInt v else 0)

theorem mint_effect {s s' : St} {i id : Nat} {dep : Coins} (h : mint s (.user i) id dep = some s') :
    ∃ b v toks, getBasket s.baskets id = some b ∧ mintValue b.tokens dep = some v ∧ MintEffect s s' i dep b v toks := by
  obtain ⟨b, v, toks, bank1, bank2, bank3, ok, rfl⟩ := mint_some h
  obtain ⟨(hpos : 0 < Dec.truncInt v), s2, e2⟩ := Bank.mint_spec ok.minted
  obtain ⟨s1, s3, em, eu⟩ := Bank.send_in_out ok.paidIn e2 ok.paidOut
  refine ⟨b, v, toks, ok.get, ok.value,
    { nonneg := ?_, baskets := rfl, reserves := (incTokens_spec ok.booked).1,
      value := incTokens_totalVal ok.booked ok.value, supply := fun d => ?_, module := fun d => ?_, user := fun d => ?_ }⟩
  · -- a positive truncation means a non-negative value (sdk.NewCoin / the bank reject everything else)
    exact Int.not_lt.mp fun hneg => by
      have := Dec.truncInt_nonpos (Int.le_of_lt hneg)
      omega
  · show bank3.supplyOf d = _
    rw [Bank.supplyOf_eq_of_supply_eq s3, s2, Bank.supplyOf_eq_of_supply_eq s1]
  · show bank3.balOf .module d = _
    rw [em]; omega
  · show bank3.balOf (.user i) d = _
    rw [eu]; simp only [amountOf]; omega

/-- of every reserve `BurnBasketToken` pays out at most the fraction c / sA, plus the half-even rounding of the portion
at 10⁻¹⁸ (the `+ sA`). Also: a burn that withdraws anything has read a positive supply. -/
theorem withdraw_portion (c sA : Int) (ts : List Token) (hc : 0 < c) (hs : sA ≠ 0) (hn : NonNeg ts)
    (hne : withdrawCoins (Dec.quo (Dec.ofInt c) (Dec.ofInt sA)) ts ≠ []) :
    0 < sA ∧ ∀ d, 0 ≤ amountOf (withdrawCoins (Dec.quo (Dec.ofInt c) (Dec.ofInt sA)) ts) d ∧
      amountOf (withdrawCoins (Dec.quo (Dec.ofInt c) (Dec.ofInt sA)) ts) d * Dec.P * sA ≤
        reserveOf ts d * (c * Dec.P + sA) := by
  have hP := Dec.P_pos
  have hc0 : 0 ≤ Dec.ofInt c := Int.mul_nonneg (by omega) (by omega)
  -- a supply ≤ 0 makes the portion ≤ 0; then nothing is withdrawn, against `hne`
  have hpos : 0 < sA := Int.not_le.mp fun hle =>
    hne (withdrawCoins_eq_nil_of_portion_nonpos _ ts (Dec.quo_nonpos hc0 (Int.mul_neg_of_neg_of_pos (by omega) hP)) hn)
  have hs0 : 0 < Dec.ofInt sA := Int.mul_pos hpos hP
  have hq0 := Dec.quo_nonneg hc0 hs0
  have hq := Dec.quo_mul_le hc0 hs0
  generalize Dec.quo (Dec.ofInt c) (Dec.ofInt sA) = q at hq0 hq ⊢
  -- q·(sA·P) ≤ (c·P)·P + sA·P, divided by P
  unfold Dec.ofInt at hq
  rw [← Int.mul_assoc, ← Int.add_mul] at hq
  have h2 : q * sA ≤ c * Dec.P + sA := Int.le_of_mul_le_mul_right hq hP
  refine ⟨hpos, fun d => ⟨amountOf_nonneg_of_allPos _ (withdrawCoins_allPos q ts) d, ?_⟩⟩
  calc amountOf (withdrawCoins q ts) d * Dec.P * sA
      ≤ reserveOf ts d * q * sA := Int.mul_le_mul_of_nonneg_right (withdrawCoins_le q ts hq0 hn d) (by omega)
    _ = reserveOf ts d * (q * sA) := Int.mul_assoc _ _ _
    _ ≤ reserveOf ts d * (c * Dec.P + sA) := Int.mul_le_mul_of_nonneg_left h2 (reserveOf_nonneg _ hn d)

/-- `wc` is the withdraw loop's output (`Coins.Add` only merges and sorts it); the portion is measured against the supply
AFTER the burn -/
structure BurnEffect (s s' : St) (i : Nat) (c : Coin) (b : Basket) (toks : List Token) (wc : Coins) : Prop where
  denom : c.denom = b.denom
  pos : 0 < c.amount
  supply_ne : s.bank.supplyOf c.denom - c.amount ≠ 0
  withdrawn : wc = withdrawCoins (Dec.quo (Dec.ofInt c.amount) (Dec.ofInt (s.bank.supplyOf c.denom - c.amount))) b.tokens
  nonempty : wc ≠ []
  baskets : s'.baskets = setBasket s.baskets { b with tokens := toks, amount := b.amount - c.amount }
  reserves : ∀ d, reserveOf toks d = reserveOf b.tokens d - amountOf wc d
  nonNeg : NonNeg b.tokens → NonNeg toks
  supply : ∀ d, s'.bank.supplyOf d = s.bank.supplyOf d - (if b.denom = d then c.amount else 0)
  module : ∀ d, s'.bank.balOf .module d = s.bank.balOf .module d - amountOf wc d
  user : ∀ d, s'.bank.balOf (.user i) d =
    s.bank.balOf (.user i) d - (if b.denom = d then c.amount else 0) + amountOf wc d

theorem burn_effect {s s' : St} {i id : Nat} {c : Coin} (h : burn s (.user i) id c = some s') :
    ∃ b toks wc, getBasket s.baskets id = some b ∧ BurnEffect s s' i c b toks wc := by
  obtain ⟨b, toks, bank1, bank2, bank3, w, ok, rfl⟩ := burn_some h
  obtain ⟨hpos, s2, e2⟩ := Bank.burn_spec ok.burnt
  obtain ⟨s1, s3, em, eu⟩ := Bank.send_in_out ok.paidIn e2 ok.paidOut
  obtain ⟨r1, _, nn1⟩ := decTokens_spec ok.booked
  have hden := ok.denom
  have hsa : bank2.supplyOf c.denom = s.bank.supplyOf c.denom - c.amount := by
    rw [s2, Bank.supplyOf_eq_of_supply_eq s1]; simp
  have hw := ok.withdrawn
  have hne := ok.nonempty
  rw [hsa] at hw
  generalize hwc : withdrawCoins _ b.tokens = wc at hw
  have hwd : ∀ d, amountOf w d = amountOf wc d := fun d => by rw [hw, amountOf_addCoins, amountOf_nil, Int.zero_add]
  refine ⟨b, toks, wc, ok.get,
    { denom := hden, pos := hpos, supply_ne := hsa ▸ ok.supply_ne, withdrawn := hwc.symm, nonempty := fun e => ?_,
      baskets := rfl, reserves := fun d => by rw [r1, hwd], nonNeg := nn1, supply := fun d => ?_, module := fun d => ?_,
      user := fun d => ?_ }⟩
  · rw [hw, e] at hne
    exact absurd hne (by decide)
  · show bank3.supplyOf d = _
    rw [Bank.supplyOf_eq_of_supply_eq s3, s2, Bank.supplyOf_eq_of_supply_eq s1, hden]
  · show bank3.balOf .module d = _
    rw [em, hwd]; omega
  · show bank3.balOf (.user i) d = _
    rw [eu, hwd, ← hden]; simp only [amountOf]; omega

theorem reconfig_some {s s' : St} {id : Nat} {cfg : Basket} (h : reconfig s id cfg = some s') :
    ∃ b, getBasket s.baskets id = some b ∧
      s' = { s with baskets := setBasket s.baskets { cfg with id := b.id, suffix := b.suffix, amount := b.amount,
                                                              surplus := b.surplus, tokens := retok b.tokens cfg.tokens } } := by
  revert h
  fun_cases reconfig s id cfg <;> try (intro h; cases h; done)
  next b hb nb => intro e; cases e; exact ⟨b, hb, rfl⟩   -- the record exists: replaced

/-- every guard of `edit`. The id and the suffix of `cfg` decide which bank supply the value check (`covered`) reads; the
amounts it values are those carried over from `old` by denom (`carryAmount`) -/
structure EditOk (s : St) (cfg old : Basket) : Prop where
  get : getBasket s.baskets cfg.id = some old
  nonempty : cfg.tokens.isEmpty = false
  weights : cfg.tokens.any (fun t => t.weight = 0) = false
  distinct : denomsNodup cfg.tokens = true
  covered : s.bank.supplyOf cfg.denom ≤ Dec.truncInt (totalVal (cfg.tokens.map (carryAmount old.tokens)))

theorem edit_some {s s' : St} {cfg : Basket} (h : edit s cfg = some s') :
    ∃ old, EditOk s cfg old ∧
      s' = { s with baskets :=
               setBasket s.baskets { cfg with surplus := old.surplus, tokens := cfg.tokens.map (carryAmount old.tokens) } } := by
  revert h
  fun_cases edit s cfg <;> try (intro h; cases h; done)
  next old hold hemp hw hnd toks nb hsup =>   -- the record exists and every check passed: `cfg` is stored
    intro e; cases e
    exact ⟨old, { get := hold, nonempty := by simpa using hemp, weights := by simpa using hw,
                  distinct := by simpa using hnd, covered := Int.not_lt.mp hsup }, rfl⟩

theorem withdrawSurplus1_some {s s' : St} {t : Acct} {id : Nat} (h : withdrawSurplus1 s t id = some s') :
    ∃ b bank', getBasket s.baskets id = some b ∧ s.bank.send .module t b.surplus = some bank' ∧
      s' = { s with bank := bank', baskets := setBasket s.baskets { b with surplus := [] } } := by
  revert h
  fun_cases withdrawSurplus1 s t id <;> try (intro h; cases h; done)
  next b hb bank' hs => intro e; cases e; exact ⟨b, bank', hb, hs, rfl⟩   -- the module paid the recorded surplus

theorem claimModuleRewards_some {s s' : St} {t : Acct} (h : claimModuleRewards s t = some s') :
    (s.modRewards = [] ∧ s' = s) ∨
    ∃ b1 b2, s.bank.send feeCollector .module s.modRewards = some b1 ∧ b1.send .module t s.modRewards = some b2 ∧
      s' = { s with bank := b2, modRewards := [] } := by
  revert h
  fun_cases claimModuleRewards s t <;> try (intro h; cases h; done)
  next hr => intro e; cases e; exact .inl ⟨hr, rfl⟩                          -- no rewards on record: nothing happens
  next b1 b2 _ h1 h2 => intro e; cases e; exact .inr ⟨b1, b2, h1, h2, rfl⟩   -- fee collector → module → target

theorem l2Burn_some {s s' : St} {a : Acct} {c : Coin} (h : l2Burn s a c = some s') :
    0 < c.amount ∧ ∃ b1, s.bank.sub1 a c = some b1 ∧
      s' = { s with bank := { b1 with supply := b1.supply.set c.denom (b1.supplyOf c.denom - c.amount) } } := by
  revert h
  fun_cases l2Burn s a c <;> try (intro h; cases h; done)
  next hp b1 hs => intro e; cases e; exact ⟨hp, b1, hs, rfl⟩   -- positive amount, the holder had the coins

theorem step_cases {P : St → Prop} {s : St} {op : Op} (h0 : P s) (h : ∀ s', Basket.apply s op = some s' → P s') :
    P (step s op) := by
  unfold step
  cases hr : Basket.apply s op with
  | none => exact h0
  | some s' => exact h s' hr

end Sekai.Lemmas.Basket
