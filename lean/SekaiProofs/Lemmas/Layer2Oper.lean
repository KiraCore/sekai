import Sekai.Model.Layer2Oper
import SekaiProofs.Lemmas.Layer2Bank
/-! Bonded verifiers (`Sekai/Model/Layer2Oper.lean`): what a successful join checks, locks and records; the closed forms of an
exit and of a session reset (no theorem composes the three into a round trip: `Props/C20` states the join and the refund loop). -/
namespace Sekai.Layer2

theorem findOper_setOper_self (ops : List Oper) (o : Oper) : findOper (setOper ops o) o.dapp o.user = some o := by
  simp [findOper, setOper]

theorem joinRecord_fields (ops : List Oper) (name : Bytes) (u : Nat) (lp : Int) :
    (joinRecord ops name u lp).dapp = name ∧ (joinRecord ops name u lp).user = u ∧
    (joinRecord ops name u lp).verifier = true ∧ (joinRecord ops name u lp).bonded = lp := by
  unfold joinRecord
  split
  · exact ⟨rfl, rfl, rfl, rfl⟩       -- no record of `u` in the dApp: a new active verifier
  · rename_i p hp                     -- an operator already: its record turned verifier
    have hpd : p.dapp = name ∧ p.user = u := by simpa using List.find?_some hp
    exact ⟨hpd.1, hpd.2, rfl, rfl⟩

theorem lockLp_spec {b b' : Bank} {u : Nat} {den : Bytes} {lp : Int} (h : lockLp b u den lp = some b') (h0 : 0 ≤ lp) :
    b'.bal (.user u) den = b.bal (.user u) den - lp ∧ b'.bal .l2 den = b.bal .l2 den + lp := by
  unfold lockLp at h
  split at h
  · exact ⟨send_bal_src h (by simp), send_bal_dst h (by simp)⟩     -- a positive amount is sent
  · cases h                       -- nothing moves, and `lp = 0`
    have : lp = 0 := by omega
    subst this
    exact ⟨(Int.sub_zero _).symm, (Int.add_zero _).symm⟩

/-- the checks of a join that went through; `b` is the bank after the lock -/
structure JoinChecks (s : St) (ops : List Oper) (u : Nat) (name : Bytes) (vbond : Dec.D) (d : Dapp) (b : Bank) : Prop where
  dapp : findDapp s.dapps name = some d
  enabled : d.enableBondVerifiers = true
  fresh : ¬ alreadyVerifier ops name u = true
  lockNonneg : 0 ≤ verifierLp d vbond
  locked : lockLp s.bank u (lpOf d.denom) (verifierLp d vbond) = some b

theorem joinVerifier_ok {s s' : St} {ops ops' : List Oper} {u : Nat} {name : Bytes} {vbond : Dec.D}
    (h : joinVerifier s ops u name vbond = .ok (s', ops')) :
    ∃ d b, JoinChecks s ops u name vbond d b ∧ s' = { s with bank := b } ∧
      ops' = setOper ops (joinRecord ops name u (verifierLp d vbond)) := by
  revert h
  fun_cases joinVerifier s ops u name vbond <;> try (intro h; cases h; done)
  next d hd he hfresh hneg b hl =>      -- the dApp takes bonded verifiers, `u` is not one yet, the lock is not negative and is paid
    intro h
    cases h
    exact ⟨d, b, { dapp := hd, enabled := by simpa using he, fresh := hfresh, lockNonneg := Int.not_lt.mp hneg, locked := hl }, rfl, rfl⟩

theorem exitDapp_ok {ops ops' : List Oper} {u : Nat} {name : Bytes} (h : exitDapp ops u name = .ok ops') :
    ∃ o, findOper ops name u = some o ∧ o.status ≠ 4 ∧ o.status ≠ 3 ∧ ops' = setOper ops { o with status := 3 } := by
  revert h
  fun_cases exitDapp ops u name <;> try (intro h; cases h; done)
  next o ho h4 h3 => intro h; exact ⟨o, ho, h4, h3, (Except.ok.inj h).symm⟩     -- an operator that is neither jailed nor exiting

/-- the checks of a session reset that went through; `b` is the bank after the refund of the exiting operators -/
structure ResetChecks (s : St) (ops : List Oper) (name : Bytes) (d : Dapp) (b : Bank) : Prop where
  dapp : findDapp s.dapps name = some d
  noExecutor : (ops.filter (fun o => o.dapp = name ∧ o.executor = true)).isEmpty = true
  refunded : refundExiting s.bank (lpOf d.denom) (ops.filter (fun o => o.dapp = name)) = some b

theorem resetSession_ok {s s' : St} {ops ops' : List Oper} {name : Bytes} (h : resetSession s ops name = .ok (s', ops')) :
    ∃ d b, ResetChecks s ops name d b ∧ s' = { s with bank := b, dapps := setDapp s.dapps { d with status := 3 } } ∧
      ops' = ops.filter (fun o => ¬ (o.dapp = name ∧ o.status = 3)) := by
  revert h
  fun_cases resetSession s ops name <;> try (intro h; cases h; done)
  next d hd hex b hb =>       -- no executor, every refund went through
    intro h
    cases h
    exact ⟨d, b, { dapp := hd, noExecutor := hex, refunded := hb }, rfl, rfl⟩

end Sekai.Layer2
