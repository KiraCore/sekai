import Sekai.Model.Basket
/-! The bank slice of the basket model: association maps (with the period sums over a limits history), and every bank
primitive in the form "balance / supply after = before ± what moved" (in `namespace Bank`, like the primitives). -/
namespace Sekai.Lemmas.Basket
open Sekai Sekai.Basket

section amap
variable {κ : Type} [DecidableEq κ]

theorem get_filter_ne (m : AMap κ) (k k' : κ) (h : k' ≠ k) :
    AMap.get (List.filter (fun p => decide (p.1 ≠ k)) m : AMap κ) k' = AMap.get m k' := by
  induction m with
  | nil => rfl
  | cons p r ih =>
    obtain ⟨pk, pv⟩ := p
    by_cases hp : pk = k
    · have hne : ¬ (pk = k') := fun e => h (e.symm.trans hp)
      rw [List.filter_cons_of_neg (by simp [hp])]
      simp only [AMap.get, hne, if_false]
      exact ih
    · rw [List.filter_cons_of_pos (by simp [hp])]
      simp only [AMap.get]
      rw [ih]

theorem get_set (m : AMap κ) (k k' : κ) (v : Int) : (m.set k v).get k' = if k' = k then v else m.get k' := by
  by_cases h : k' = k
  · simp [AMap.set, AMap.get, h]
  · simp only [AMap.set, AMap.get, if_neg h, if_neg (Ne.symm h)]
    exact get_filter_ne m k k' h
end amap

theorem periodSum_filter (id now' period : Nat) (p : (Nat × Nat) × Int → Bool) (h : List ((Nat × Nat) × Int))
    (hp : ∀ e ∈ h, (e.1.1 = id ∧ now' ≤ e.1.2 + period) → p e = true) :
    periodSum id now' period (h.filter p) = periodSum id now' period h := by
  induction h with
  | nil => rfl
  | cons e r ih =>
    obtain ⟨k, v⟩ := e
    have ih' := ih fun x hx => hp x (List.mem_cons_of_mem _ hx)
    have he := hp (k, v) List.mem_cons_self
    simp only [List.filter_cons]
    split
    · simp only [periodSum, ih']
    · rename_i hpe
      simp only [periodSum, ih', if_neg fun hc => hpe (he hc)]
      omega

namespace Bank

theorem balOf_bump (b : Bank) (a a' : Acct) (d d' : Denom) (δ : Int) :
    AMap.get (b.bal.set (a, d) (b.balOf a d + δ)) (a', d') = b.balOf a' d' + (if a' = a ∧ d = d' then δ else 0) := by
  rw [get_set]
  by_cases h : a' = a ∧ d = d'
  · obtain ⟨rfl, rfl⟩ := h; simp
  · have : ¬ ((a', d') = (a, d)) := fun e => h ⟨(Prod.mk.inj e).1, (Prod.mk.inj e).2.symm⟩
    simp only [this, h, if_false]
    exact (Int.add_zero _).symm

theorem supplyOf_bump (b : Bank) (d d' : Denom) (δ : Int) :
    AMap.get (b.supply.set d (b.supplyOf d + δ)) d' = b.supplyOf d' + (if d = d' then δ else 0) := by
  rw [get_set]
  by_cases h : d = d'
  · subst h; simp
  · simp only [h, Ne.symm h, if_false]
    exact (Int.add_zero _).symm

theorem supplyOf_eq_of_supply_eq {b b' : Bank} (h : b'.supply = b.supply) (d : Denom) :
    b'.supplyOf d = b.supplyOf d := by unfold Bank.supplyOf; rw [h]

theorem sub1_spec {b b' : Bank} {a : Acct} {c : Coin} (h : b.sub1 a c = some b') :
    b'.supply = b.supply ∧ c.amount ≤ b.balOf a c.denom ∧
    ∀ a' d, b'.balOf a' d = b.balOf a' d - (if a' = a ∧ c.denom = d then c.amount else 0) := by
  unfold Bank.sub1 at h
  split at h
  · cases h                                        -- the balance is too small
  · cases h                                        -- the balance is lowered
    refine ⟨rfl, by omega, fun a' d => ?_⟩
    show AMap.get (b.bal.set (a, c.denom) (b.balOf a c.denom + -c.amount)) (a', d) = _
    rw [balOf_bump]
    split <;> omega

theorem add1_spec (b : Bank) (a : Acct) (c : Coin) :
    (b.add1 a c).supply = b.supply ∧
    ∀ a' d, (b.add1 a c).balOf a' d = b.balOf a' d + (if a' = a ∧ c.denom = d then c.amount else 0) :=
  ⟨rfl, fun a' d => balOf_bump b a a' c.denom d c.amount⟩

theorem subCoins_spec {cs : Coins} {b b' : Bank} {a : Acct} (h : b.subCoins a cs = some b') :
    b'.supply = b.supply ∧
    ∀ a' d, b'.balOf a' d = b.balOf a' d - (if a' = a then amountOf cs d else 0) := by
  fun_induction Bank.subCoins b a cs with
  | case1 b => cases h; exact ⟨rfl, fun a' d => by simp [amountOf]⟩   -- no coin left
  | case2 b c cs h1 => cases h                                        -- `c` cannot be paid
  | case3 b c cs b1 h1 ih =>                                          -- `c` is taken, the rest from `b1`
    obtain ⟨s1, _, e1⟩ := sub1_spec h1
    obtain ⟨s2, e2⟩ := ih h
    refine ⟨by rw [s2, s1], fun a' d => ?_⟩
    rw [e2, e1]
    simp only [amountOf]
    by_cases ha : a' = a <;> simp only [ha, true_and, false_and, if_true, if_false] <;> omega

theorem addCoinsTo_spec (cs : Coins) (b : Bank) (a : Acct) :
    (b.addCoinsTo a cs).supply = b.supply ∧
    ∀ a' d, (b.addCoinsTo a cs).balOf a' d = b.balOf a' d + (if a' = a then amountOf cs d else 0) := by
  fun_induction Bank.addCoinsTo b a cs with
  | case1 b => exact ⟨rfl, fun a' d => by simp [amountOf]⟩            -- no coin left
  | case2 b c cs ih =>                                                -- `c` is added, then the rest
    obtain ⟨s1, e1⟩ := add1_spec b a c
    obtain ⟨s2, e2⟩ := ih
    refine ⟨by rw [s2, s1], fun a' d => ?_⟩
    rw [e2, e1]
    simp only [amountOf]
    by_cases ha : a' = a <;> simp only [ha, true_and, false_and, if_true, if_false] <;> omega

theorem send_spec {b b' : Bank} {src dst : Acct} {cs : Coins} (h : b.send src dst cs = some b') :
    validCoins cs = true ∧ b'.supply = b.supply ∧
    ∀ a' d, b'.balOf a' d = b.balOf a' d - (if a' = src then amountOf cs d else 0)
                                        + (if a' = dst then amountOf cs d else 0) := by
  unfold Bank.send at h
  split at h
  · rename_i hv
    split at h
    · cases h                                      -- the sender cannot pay
    · rename_i b1 h1                               -- taken from `src` (giving `b1`), added to `dst`
      cases h
      obtain ⟨s1, e1⟩ := subCoins_spec h1
      obtain ⟨s2, e2⟩ := addCoinsTo_spec cs b1 dst
      exact ⟨hv, by rw [s2, s1], fun a' d => by rw [e2, e1]⟩
  · cases h                                        -- invalid coins

/-- the balance clause of `mint_spec` / `burn_spec` is written with `amountOf [c]`, the form `send_in_out` takes -/
theorem mint_spec {b b' : Bank} {c : Coin} (h : b.mint c = some b') :
    0 < c.amount ∧
    (∀ d, b'.supplyOf d = b.supplyOf d + (if c.denom = d then c.amount else 0)) ∧
    ∀ a' d, b'.balOf a' d = b.balOf a' d + (if a' = Acct.module then amountOf [c] d else 0) := by
  unfold Bank.mint at h
  split at h
  · rename_i hpos                                  -- a positive amount: credited to the module, added to the supply
    cases h
    refine ⟨hpos, fun d => supplyOf_bump (b.add1 .module c) c.denom d c.amount, fun a' d => ?_⟩
    show (b.add1 .module c).balOf a' d = _
    rw [(add1_spec b .module c).2]
    simp only [amountOf]
    by_cases ha : a' = Acct.module <;> simp [ha]
  · cases h                                        -- amount ≤ 0

theorem burn_spec {b b' : Bank} {c : Coin} (h : b.burn c = some b') :
    0 < c.amount ∧
    (∀ d, b'.supplyOf d = b.supplyOf d - (if c.denom = d then c.amount else 0)) ∧
    ∀ a' d, b'.balOf a' d = b.balOf a' d + (if a' = Acct.module then -amountOf [c] d else 0) := by
  unfold Bank.burn at h
  split at h
  · rename_i hpos
    split at h
    · cases h                                      -- the module does not hold the coin
    · rename_i b1 h1                               -- taken from the module (giving `b1`), taken off the supply
      cases h
      obtain ⟨s1, _, e1⟩ := sub1_spec h1
      refine ⟨hpos, fun d => ?_, fun a' d => ?_⟩
      · show AMap.get (b1.supply.set c.denom (b1.supplyOf c.denom + -c.amount)) d = _
        rw [supplyOf_bump, supplyOf_eq_of_supply_eq s1]
        split <;> omega
      · show b1.balOf a' d = _
        rw [e1]
        simp only [amountOf]
        by_cases ha : a' = Acct.module <;> simp [ha] <;> omega
  · cases h                                        -- amount ≤ 0

/-- the bank side of `MintBasketToken` / `BurnBasketToken`; `b1 → b2` is the mint or the burn -/
theorem send_in_out {b b1 b2 b3 : Bank} {i : Nat} {cs cs' : Coins} {x : Denom → Int}
    (h1 : b.send (.user i) .module cs = some b1)
    (h2 : ∀ a' d, b2.balOf a' d = b1.balOf a' d + (if a' = Acct.module then x d else 0))
    (h3 : b2.send .module (.user i) cs' = some b3) :
    b1.supply = b.supply ∧ b3.supply = b2.supply ∧
    (∀ d, b3.balOf .module d = b.balOf .module d + amountOf cs d + x d - amountOf cs' d) ∧
    (∀ d, b3.balOf (.user i) d = b.balOf (.user i) d - amountOf cs d + amountOf cs' d) := by
  obtain ⟨_, s1, e1⟩ := send_spec h1
  obtain ⟨_, s3, e3⟩ := send_spec h3
  refine ⟨s1, s3, fun d => ?_, fun d => ?_⟩ <;> rw [e3, h2, e1] <;> simp only [reduceCtorEq, if_false, if_true] <;> omega

end Bank

end Sekai.Lemmas.Basket
