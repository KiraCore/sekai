/-! `List.foldl f s l` by what one step does: for a step that is total, read through one projection `rd` of the state (Perm,
PermGenesis); and for the runs that skip a failing step, `l.foldl (fun s a => (f s a).getD s) s`, which is what
`ops.foldl apply s` is in Bank, Perm and Stake. -/
namespace Sekai.Fold

theorem foldl_keeps {σ β γ} (f : σ → β → σ) (rd : σ → γ) (hf : ∀ s b, rd (f s b) = rd s) (l : List β) (s : σ) :
    rd (l.foldl f s) = rd s :=
  List.foldlRecOn (motive := fun t => rd t = rd s) l f rfl fun t ht b _ => (hf t b).trans ht

/-- the steps with `w b` write `v b` where `rd` reads, the others leave it: the result is that of SOME writing step (the
statement does not say which), or the value at the start if there is none -/
theorem read_foldl_cases {σ β γ} (f : σ → β → σ) (rd : σ → γ) (v : β → γ) (w : β → Prop) [DecidablePred w]
    (hf : ∀ s b, rd (f s b) = if w b then v b else rd s) (l : List β) (s : σ) :
    (∃ b ∈ l, w b ∧ rd (l.foldl f s) = v b) ∨ ((∀ b ∈ l, ¬ w b) ∧ rd (l.foldl f s) = rd s) := by
  induction l generalizing s with
  | nil => exact .inr ⟨by simp, rfl⟩
  | cons b l ih =>
    rw [List.foldl_cons]
    rcases ih (f s b) with ⟨c, hc, h⟩ | ⟨hn, h⟩
    · exact .inl ⟨c, .tail _ hc, h⟩
    · rw [hf] at h
      by_cases hb : w b
      · exact .inl ⟨b, .head _, hb, by rw [h, if_pos hb]⟩
      · exact .inr ⟨by simpa [hb] using hn, by rw [h, if_neg hb]⟩

theorem read_foldl {σ β γ} (f : σ → β → σ) (rd : σ → γ) (v : γ) (w : β → Prop) [DecidablePred w]
    (hf : ∀ s b, rd (f s b) = if w b then v else rd s) (l : List β) (s : σ) :
    rd (l.foldl f s) = if ∃ b ∈ l, w b then v else rd s := by
  rcases read_foldl_cases f rd (fun _ => v) w hf l s with ⟨b, hb, hw, h⟩ | ⟨hn, h⟩
  · rw [h, if_pos ⟨b, hb, hw⟩]
  · rw [h, if_neg fun ⟨b, hb, hw⟩ => hn b hb hw]

theorem mem_foldl_iff {σ β ε} (f : σ → β → σ) (rd : σ → List ε) (g : β → ε → Prop)
    (hf : ∀ s b e, e ∈ rd (f s b) ↔ e ∈ rd s ∨ g b e) (l : List β) (s : σ) (e : ε) :
    e ∈ rd (l.foldl f s) ↔ e ∈ rd s ∨ ∃ b ∈ l, g b e := by
  induction l generalizing s with
  | nil => simp
  | cons b l ih => simp [ih, hf, or_assoc]

/-- the guard `G` may speak of the state an operation meets -/
theorem getD_inv_guarded {σ α : Type} {f : σ → α → Option σ} {I : σ → Prop} {G : σ → α → Prop} (l : List α)
    (hstep : ∀ s a s', I s → G s a → f s a = some s' → I s') {s : σ} (h : I s)
    (hg : ∀ (pre : List α) (a : α) (post : List α), l = pre ++ a :: post →
      G (pre.foldl (fun s a => (f s a).getD s) s) a) :
    I (l.foldl (fun s a => (f s a).getD s) s) := by
  induction l generalizing s with
  | nil => exact h
  | cons a rest ih =>
    refine ih ?_ fun pre b post e => ?_
    · show I ((f s a).getD s)
      cases hs : f s a with
      | none => exact h
      | some s' => exact hstep s a s' h (hg [] a rest rfl) hs
    · simpa using hg (a :: pre) b post (by simp [e])

/-- a reflexive, transitive relation to the start `s₀` is the instance `I := R s₀` -/
theorem getD_inv {σ α : Type} {f : σ → α → Option σ} {I : σ → Prop} (l : List α)
    (hstep : ∀ a ∈ l, ∀ s s', I s → f s a = some s' → I s') {s : σ} (h : I s) :
    I (l.foldl (fun s a => (f s a).getD s) s) :=
  getD_inv_guarded (G := fun _ a => a ∈ l) l (fun s a s' hI ha => hstep a ha s s' hI) h
    fun _ _ _ e => e ▸ List.mem_append_right _ List.mem_cons_self

end Sekai.Fold
