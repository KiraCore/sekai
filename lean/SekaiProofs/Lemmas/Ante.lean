import Sekai.Model.Ante
import SekaiProofs.Lemmas.Dec
import SekaiProofs.Lemmas.Lookup
/-! Lemmas about `Sekai.Model.Ante`: the `uint64`/`int64` casts; the vocabulary the decisions are stated in (`CoinOk`,
`feeValue`, `execSpec`, `PoorOk`, …) and, for the fee validator and every decorator loop, what it means that it succeeds
(`validateFee_eq_ok` is what C09 and C14 both rest on); the bank move and the fee deduction; what acceptance by `ante` says
(`ante_ok`); the pay-back loop round by round, the keeper function around it in closed form (`sendFromCollector_ok`) and the
quantity the refunds conserve (`heldPlusPaid`); the edits of the freeze lists. The names live in `Sekai.Lemmas.Ante` (C09 /
C14 open it). -/
namespace Sekai.Lemmas.Ante
open Sekai Sekai.Ante

-- for the closed witnesses of C09 / C14 that `decide` a verdict (`validateFee cfg0 tx0 = .ok ()`)
deriving instance DecidableEq for Except

theorem toI64_of_lt {n : Nat} (h : n < two63) : toI64 n = (n : Int) := by
  have h64 : n % two64 = n := Nat.mod_eq_of_lt (Nat.lt_trans h (by decide))
  rw [toI64, h64, if_pos h]

theorem toI64_le (n : Nat) : toI64 n ≤ (n : Int) := by
  have := Nat.mod_le n two64
  unfold toI64
  split <;> omega

theorem toI64_mod (n : Nat) : toI64 (n % two64) = toI64 n := by
  unfold toI64; rw [Nat.mod_mod]

theorem bigToI64_le {x : Int} (h : 0 ≤ x) : bigToI64 x ≤ x := by
  have := toI64_le (x % (two64 : Int)).toNat
  unfold bigToI64
  unfold two64 at *
  omega

theorem quotient_fits {rate x : Int} {a : Nat} (hrate : 0 ≤ rate) (hne : rate ≠ 0) (hx : 0 ≤ x) (hlt : x < rate * a) :
    bigToI64 (x / rate) < a ∧ rate * bigToI64 (x / rate) ≤ x := by
  have hq := bigToI64_le (Int.ediv_nonneg hx hrate)
  have hxa : x / rate < (a : Int) := Int.ediv_lt_of_lt_mul (by omega) (by rw [Int.mul_comm]; exact hlt)
  have h1 := Int.mul_le_mul_of_nonneg_left hq hrate
  have h2 := Int.mul_ediv_self_le (x := x) hne
  exact ⟨by omega, by omega⟩

/-- a fee coin the property admits -/
def CoinOk (c : Cfg) (d : String) : Prop :=
  ∃ t, tokenInfo? c d = some t ∧ t.feeEnabled = true ∧ frozen c d = false ∧ (d ≠ c.native → c.foreignEnabled = true)

def rateOf (c : Cfg) (d : String) : Int :=
  match tokenInfo? c d with
  | some t => t.rate
  | none => 0

/-- value of the fee at the registered rates, scaled by 10^18: `Σ amount × rate` -/
def feeValue (c : Cfg) : Coins → Int
  | [] => 0
  | (d, a) :: rest => (a : Int) * rateOf c d + feeValue c rest

/-- `Σ max(ExecutionFee, FailureFee)` over the messages whose type has a fee record — in ℕ, no wrap-around -/
def execSpec (c : Cfg) : List Msg → Nat
  | [] => 0
  | m :: rest =>
    (match execFee? c m.msgType with
     | none => 0
     | some f => execMax f) + execSpec c rest

theorem execMax_eq (f : ExecFee) : execMax f = max f.exec f.fail := by
  unfold execMax; split <;> omega

theorem feeLoop_eq_ok (c : Cfg) (fee : Coins) (acc v : Int) :
    feeLoop c fee acc = .ok v ↔ (∀ x ∈ fee, CoinOk c x.1) ∧ v = acc + feeValue c fee := by
  fun_induction feeLoop c fee acc
  next acc => simp [feeValue, eq_comm]                  -- no coin left
  next d a rest acc hfor =>                             -- a foreign coin while foreign fee payments are off
    refine iff_of_false nofun fun ⟨hok, _⟩ => ?_
    obtain ⟨_, _, _, _, hfor'⟩ := hok _ (List.mem_cons_self ..)
    obtain ⟨h1, h2⟩ : c.foreignEnabled = false ∧ d ≠ c.native := by simpa using hfor
    exact absurd (hfor' h2) (by simp [h1])
  next d a rest acc hfor ht =>                          -- not a registered token
    refine iff_of_false nofun fun ⟨hok, _⟩ => ?_
    obtain ⟨_, ht', _⟩ := hok _ (List.mem_cons_self ..)
    cases ht.symm.trans ht'
  next d a rest acc hfor t ht hen =>                    -- registered, but not enabled for fee payments
    refine iff_of_false nofun fun ⟨hok, _⟩ => ?_
    obtain ⟨_, ht', hen', _⟩ := hok _ (List.mem_cons_self ..)
    cases ht.symm.trans ht'
    simp [hen'] at hen
  next d a rest acc hfor t ht hen hfr =>                -- frozen
    refine iff_of_false nofun fun ⟨hok, _⟩ => ?_
    obtain ⟨_, _, _, hfr', _⟩ := hok _ (List.mem_cons_self ..)
    cases hfr.symm.trans hfr'
  next d a rest acc hfor t ht hen hfr ih =>             -- admissible: its value at the registered rate is added
    have : CoinOk c d := ⟨t, ht, by simpa using hen, by simpa using hfr, fun hne => by simpa [hne] using hfor⟩
    rw [ih, Dec.ofInt_mul, List.forall_mem_cons, feeValue, rateOf, ht, Int.add_assoc]
    simp [this]

theorem execReq_mod (c : Cfg) (msgs : List Msg) (acc : Nat) :
    execReq c msgs acc % two64 = (acc + execSpec c msgs) % two64 := by
  fun_induction execReq c msgs acc
  next => rfl
  next m rest acc hf ih => rw [ih, execSpec, hf, Nat.zero_add]                            -- no fee record for the type
  next m rest acc f hf ih => rw [ih, execSpec, hf, u64, Nat.mod_add_mod, Nat.add_assoc]   -- `+= maxFee` in `uint64`

/-- The decision of the fee validator for ALL configurations, the `int64` casts left standing: where a bound or the
execution-fee sum is 2^63 or more the comparison is made with the wrapped value. -/
theorem validateFee_eq_ok (c : Cfg) (tx : Tx) :
    validateFee c tx = .ok () ↔
      (∀ x ∈ tx.fee, CoinOk c x.1) ∧
      toI64 c.minTxFee * Dec.P ≤ feeValue c tx.fee ∧
      feeValue c tx.fee ≤ toI64 c.maxTxFee * Dec.P ∧
      toI64 (execSpec c tx.msgs) * Dec.P ≤ feeValue c tx.fee := by
  unfold validateFee
  -- the cast sees its argument modulo 2^64 only, and there the `uint64` sum of the validator is the true sum
  rw [← toI64_mod (execReq c tx.msgs 0), execReq_mod, Nat.zero_add, toI64_mod]
  cases hl : feeLoop c tx.fee 0 with
  | error e =>
    refine ⟨nofun, fun h => ?_⟩
    rw [(feeLoop_eq_ok c tx.fee 0 _).mpr ⟨h.1, rfl⟩] at hl
    cases hl
  | ok v =>
    obtain ⟨hok, rfl⟩ := (feeLoop_eq_ok c tx.fee 0 v).mp hl
    simp only [Dec.ofInt, Int.zero_add, Bool.or_eq_true, decide_eq_true_eq]
    split
    · exact ⟨nofun, fun h => by omega⟩                   -- below the minimum or above the maximum
    · split
      · exact ⟨nofun, fun h => by omega⟩                 -- does not cover the execution fees
      · exact ⟨fun _ => ⟨hok, by omega, by omega, by omega⟩, fun _ => rfl⟩

theorem moveCoins_spec {src dst : Addr} {cs : Coins} {b b' : Addr → String → Nat}
    (h : moveCoins b src dst cs = some b') (hne : src ≠ dst) :
    ∀ d, b' src d + amountOf cs d = b src d ∧ b' dst d = b dst d + amountOf cs d ∧
      ∀ x, x ≠ src → x ≠ dst → b' x d = b x d := by
  fun_induction moveCoins b src dst cs <;> try (cases h; done)
  next b => cases h; simp [amountOf]
  next b e a rest hge b1 b2 ih =>                       -- `src` holds `a` of `e`: moved, then the remaining coins
    intro d
    obtain ⟨h1, h2, h3⟩ := ih h d
    have hne' := hne.symm
    by_cases hd : e = d
    · subst hd
      simp only [b2, b1, setBal, amountOf, hne, hne', and_true, if_true, if_false, and_self] at h1 h2 h3 ⊢
      exact ⟨by omega, by omega, fun x hx1 hx2 => by simpa [hx1, hx2] using h3 x hx1 hx2⟩
    · have hd' : ¬ d = e := fun hh => hd hh.symm
      simp only [b2, b1, setBal, amountOf, hd, hd', and_false, if_false] at h1 h2 h3 ⊢
      exact ⟨by omega, by omega, fun x hx1 hx2 => by simpa using h3 x hx1 hx2⟩

theorem amountOf_allZero {cs : Coins} (h : cs.all (fun x => x.2 == 0) = true) (d : String) : amountOf cs d = 0 := by
  induction cs with
  | nil => rfl
  | cons x rest ih =>
    simp only [List.all_cons, Bool.and_eq_true, beq_iff_eq] at h
    simp [amountOf, h.1, ih h.2]

theorem deductFee_ok {tx : Tx} {s s' : State} (h : deductFee tx s = .ok s') :
    ∃ b, s' = { s with bal := b } ∧
      ∀ d, b (.user tx.payer) d + amountOf tx.fee d = s.bal (.user tx.payer) d ∧
        b .feeCollector d = s.bal .feeCollector d + amountOf tx.fee d ∧
        ∀ x, x ≠ .user tx.payer → x ≠ .feeCollector → b x d = s.bal x d := by
  revert h
  fun_cases deductFee tx s <;> try (intro h; cases h; done)
  next hz => intro h; exact ⟨s.bal, by cases h; rfl, fun d => by simp [amountOf_allZero hz d]⟩     -- zero fee: nothing moves
  next b hb =>                                          -- valid coins, the payer holds them: moved to the collector
    intro h
    exact ⟨b, by cases h; rfl, moveCoins_spec hb nofun⟩

/-- What acceptance by `ante` says: the verdicts of the three deciding decorators and, in `state`, the accepted state in closed
form over the state `s2` after the fee deduction. -/
structure Admitted (c : Cfg) (tx : Tx) (s s1 : State) : Prop where
  fee : validateFee c tx = .ok ()
  poor : poorNetwork c tx.msgs = .ok ()
  filter : bwLoop c tx.msgs = .ok ()
  state : ∃ s2, deductFee tx { s with hasPubKey := fun i => if i = tx.payer then true else s.hasPubKey i } = .ok s2 ∧
    s1 = { s2 with execs := s2.execs ++ registerExec c tx.msgs,
                   seq := fun i => if i = tx.payer then s2.seq i + 1 else s2.seq i }

theorem ante_ok {c : Cfg} {tx : Tx} {s s1 : State} (h : ante c tx s = .ok s1) : Admitted c tx s s1 := by
  revert h
  fun_cases ante c tx s <;> try (intro h; cases h; done)
  next hfee _ s2 hdeduct hpoor hfilter _ =>             -- every decorator passed
    intro h
    exact { fee := hfee, poor := hpoor, filter := hfilter, state := ⟨s2, hdeduct, by cases h; rfl⟩ }

def SmallNativeSend (c : Cfg) (m : Msg) : Prop :=
  ∃ a to, m.kind = .send [(c.native, a)] to ∧ a ≤ c.poorMaxSend ∧ a < two64

def PoorOk (c : Cfg) (m : Msg) : Prop :=
  if m.msgType = "send" then SmallNativeSend c m else m.msgType ∈ c.poorMsgs

/-- what `PoorOk` asks of a bank send, clause by clause as the loop tests it -/
theorem poorOk_send {c : Cfg} {m : Msg} {cs : Coins} {to : Nat} (hs : (m.msgType == "send") = true)
    (hk : m.kind = .send cs to) :
    PoorOk c m ↔ match cs with
      | [] => False
      | (d, a) :: more => (!more.isEmpty || d != c.native) = false ∧ ¬ a ≥ two64 ∧ ¬ a > c.poorMaxSend := by
  rw [PoorOk, if_pos (beq_iff_eq.mp hs)]
  constructor
  · rintro ⟨a, to', hk', h1, h2⟩
    cases hk.symm.trans hk'
    exact ⟨by simp, by omega, by omega⟩
  · match cs, hk with
    | [], _ => nofun
    | (d, a) :: more, hk =>
      rintro ⟨h0, h1, h2⟩
      obtain ⟨rfl, rfl⟩ : more = [] ∧ d = c.native := by simpa using h0
      exact ⟨a, to, hk, by omega, by omega⟩

theorem poorLoop_eq_ok (c : Cfg) (msgs : List Msg) :
    poorLoop c msgs = .ok () ↔ ∀ m ∈ msgs, PoorOk c m := by
  fun_induction poorLoop c msgs
  next => simp
  -- type "send" and a bank `MsgSend`: the conditions of the five branches are the clauses of `poorOk_send`
  next m rest hs to hk => simp [poorOk_send hs hk, *]                            -- no coin: `msg.Amount[0]` panics
  next m rest hs to d a more hden hk => simp [poorOk_send hs hk, *]              -- several coins, or not the native one
  next m rest hs to d a more hden h64 hk => simp [poorOk_send hs hk, *]          -- amount ≥ 2^64: `Uint64()` panics
  next m rest hs to d a more hden h64 hmax hk => simp [poorOk_send hs hk, *]     -- above `PoorNetworkMaxBankSend`
  next m rest hs to d a more hden h64 hmax hk ih => simp [poorOk_send hs hk, *]  -- a small native send: go on
  next m rest hs hk =>                                  -- type "send", not a bank `MsgSend`: the type assertion panics
    refine ⟨nofun, fun h => ?_⟩
    obtain ⟨_, _, hk', _⟩ := (if_pos (beq_iff_eq.mp hs)).mp (h _ (List.mem_cons_self ..))
    exact (hk _ _ hk').elim
  next m rest hs hc ih =>                               -- another type, on the allowed list: go on
    have : PoorOk c m := (if_neg (by simpa using hs)).mpr (by simpa using hc)
    rw [ih, List.forall_mem_cons]; simp [this]
  next m rest hs hc =>                                  -- another type, not on the list
    refine ⟨nofun, fun h => (hc ?_).elim⟩
    simpa using (if_neg (by simpa using hs)).mp (h _ (List.mem_cons_self ..))

theorem bwLoop_ok {c : Cfg} {msgs : List Msg} (h : bwLoop c msgs = .ok ()) :
    ∀ m ∈ msgs, m.msgType = "send" → ∃ cs to, m.kind = .send cs to ∧ ∀ x ∈ cs, frozen c x.1 = false := by
  fun_induction bwLoop c msgs <;> try (cases h; done)
  next => nofun
  next m rest hs cs to hk hany ih =>                    -- a bank send, none of its coins frozen: go on
    rw [List.forall_mem_cons]
    refine ⟨fun _ => ⟨cs, to, hk, fun x hx => ?_⟩, ih h⟩
    simpa using fun hf => hany (List.any_eq_true.mpr ⟨x, hx, hf⟩)
  next m rest hs ih =>                                  -- not of type "send": not inspected
    rw [List.forall_mem_cons]
    exact ⟨fun hty => absurd (beq_iff_eq.mpr hty) hs, ih h⟩

/-- `paybackLoop` yields, per coin of the payer's history, `(denom, held, paidBack)`: the coins held -/
def tripHeld (trip : List (String × Nat × Nat)) : Coins := trip.map (fun x => (x.1, x.2.1))

/-- One round of the pay-back loop on the history coin `(d, a)`: `p` is what is paid back of it, `f'` the value filled after
it, `r` the triples of the remaining coins (padded with zeros when the request is filled exactly). -/
theorem paybackLoop_cons {c : Cfg} {total filled : Int} {d : String} {a : Nat} {rest : Coins}
    {trip : List (String × Nat × Nat)} (h : paybackLoop c total ((d, a) :: rest) filled = .ok trip) :
    ∃ p f' r, trip = (d, a, p) :: r ∧
      (paybackLoop c total rest f' = .ok r ∨ r = rest.map fun x => (x.1, x.2, 0)) ∧
      (p = 0 ∧ f' = filled ∨
       ∃ t, tokenInfo? c d = some t ∧
         (p = a ∧ f' = filled + t.rate * a ∧ t.rate * a ≤ total - filled ∨
          ∃ q, q = bigToI64 ((total - filled) / t.rate) ∧ 0 < q ∧ t.rate ≠ 0 ∧ total - filled < t.rate * a ∧
            p = q.toNat ∧ f' = filled + t.rate * q)) := by
  -- the recursive call, with this round's triple put in front of its result
  have goOn : ∀ {p : Nat} {f' : Int}, (paybackLoop c total rest f').map (fun r => (d, a, p) :: r) = .ok trip →
      ∃ r, trip = (d, a, p) :: r ∧ (paybackLoop c total rest f' = .ok r ∨ r = rest.map fun x => (x.1, x.2, 0)) := by
    intro p f' h
    cases hr : paybackLoop c total rest f' with
    | error e => rw [hr] at h; cases h
    | ok r => rw [hr] at h; cases h; exact ⟨r, rfl, .inl rfl⟩
  -- the test `total = f'` in front of it: stop and pad, or go on
  have stopOrGo : ∀ {p : Nat} {f' : Int}, (if total = f' then .ok ((d, a, p) :: rest.map fun x => (x.1, x.2, 0))
        else (paybackLoop c total rest f').map (fun r => (d, a, p) :: r)) = Except.ok (ε := Err) trip →
      ∃ r, trip = (d, a, p) :: r ∧ (paybackLoop c total rest f' = .ok r ∨ r = rest.map fun x => (x.1, x.2, 0)) := by
    intro p f' h
    split at h
    · cases h; exact ⟨_, rfl, .inr rfl⟩
    · exact goOn h
  simp only [paybackLoop, Dec.mul_ofInt] at h
  cases ht : tokenInfo? c d with
  | none =>
    rw [ht] at h
    obtain ⟨r, hr⟩ := goOn h
    exact ⟨0, filled, r, hr.1, hr.2, .inl ⟨rfl, rfl⟩⟩
  | some t =>
    simp only [ht] at h
    by_cases hgt : t.rate * a > total - filled
    · rw [if_pos hgt] at h
      by_cases hne : t.rate = 0
      · rw [if_pos hne] at h; cases h
      rw [if_neg hne] at h
      by_cases hq : bigToI64 ((total - filled) / t.rate) > 0
      · rw [if_pos hq] at h
        obtain ⟨r, hr⟩ := stopOrGo h
        exact ⟨_, _, r, hr.1, hr.2, .inr ⟨t, rfl, .inr ⟨_, rfl, hq, hne, hgt, rfl, rfl⟩⟩⟩
      · rw [if_neg hq] at h
        obtain ⟨r, hr⟩ := stopOrGo h
        exact ⟨0, filled, r, hr.1, hr.2, .inl ⟨rfl, rfl⟩⟩
    · rw [if_neg hgt] at h
      obtain ⟨r, hr⟩ := stopOrGo h
      exact ⟨a, _, r, hr.1, hr.2, .inr ⟨t, rfl, .inl ⟨rfl, rfl, Int.not_lt.mp hgt⟩⟩⟩

theorem paybackLoop_held {c : Cfg} {total filled : Int} {hist : Coins} {trip : List (String × Nat × Nat)}
    (h : paybackLoop c total hist filled = .ok trip) : tripHeld trip = hist := by
  induction hist generalizing filled trip with
  | nil => cases h; rfl
  | cons x rest ih =>
    obtain ⟨p, f', r, rfl, hr, _⟩ := paybackLoop_cons h
    rcases hr with hr | rfl
    · rw [← ih hr]; rfl
    · simp [tripHeld, Function.comp_def]

/-- With non-negative rates no coin is paid back beyond what is held of it, so the `Coins.Sub` in the keeper cannot go
negative; that the filled value never exceeds the requested one carries the induction. -/
theorem paybackLoop_paid_le_held {c : Cfg} {total filled : Int} {hist : Coins} {trip : List (String × Nat × Nat)}
    (h : paybackLoop c total hist filled = .ok trip) (hr : ∀ t ∈ c.tokens, 0 ≤ t.rate) (hf : filled ≤ total) :
    ∀ x ∈ trip, x.2.2 ≤ x.2.1 := by
  induction hist generalizing filled trip with
  | nil => cases h; nofun
  | cons x rest ih =>
    obtain ⟨p, f', r, rfl, hrest, hp⟩ := paybackLoop_cons h
    have : p ≤ x.2 ∧ f' ≤ total := by
      rcases hp with ⟨rfl, rfl⟩ | ⟨t, ht, ⟨rfl, rfl, hle⟩ | ⟨q, rfl, hq0, hne, hgt, rfl, rfl⟩⟩
      · exact ⟨Nat.zero_le _, hf⟩
      · exact ⟨Nat.le_refl _, by omega⟩
      · have := quotient_fits (hr t (List.mem_of_find?_eq_some ht)) hne (by omega) hgt
        exact ⟨by omega, by omega⟩
    rw [List.forall_mem_cons]
    refine ⟨this.1, ?_⟩
    rcases hrest with hrest | rfl
    · exact ih hrest this.2
    · exact List.forall_mem_map.mpr fun _ _ => Nat.zero_le _

theorem amountOf_filterMap_pos {α : Type} (l : List α) (k : α → String) (f : α → Nat) (d : String) :
    amountOf (l.filterMap fun x => if f x > 0 then some (k x, f x) else none) d = amountOf (l.map fun x => (k x, f x)) d := by
  induction l with
  | nil => rfl
  | cons x rest ih =>
    by_cases h : f x > 0
    · simp [h, amountOf, ih]
    · simp [amountOf, ih, Nat.eq_zero_of_not_pos h]

theorem trip_conserve (trip : List (String × Nat × Nat)) (h : ∀ x ∈ trip, x.2.2 ≤ x.2.1) (d : String) :
    amountOf (trip.filterMap fun x => if x.2.2 > 0 then some (x.1, x.2.2) else none) d +
      amountOf (trip.filterMap fun x => if x.2.1 - x.2.2 > 0 then some (x.1, x.2.1 - x.2.2) else none) d =
    amountOf (tripHeld trip) d := by
  rw [amountOf_filterMap_pos trip (·.1) (·.2.2), amountOf_filterMap_pos trip (·.1) (fun x => x.2.1 - x.2.2)]
  induction trip with
  | nil => rfl
  | cons x rest ih =>
    obtain ⟨hx, hrest⟩ := List.forall_mem_cons.mp h
    have := ih hrest
    simp only [tripHeld, List.map_cons, amountOf] at this ⊢
    split <;> omega

theorem sendFromCollector_ok {c : Cfg} {s s' : State} {p : Nat} {amt : Coins}
    (h : sendFromCollector c s p amt = .ok s') :
    ∃ trip b, paybackLoop c (requested c amt) (s.hist p) 0 = .ok trip ∧ (∀ x ∈ trip, x.2.2 ≤ x.2.1) ∧
      moveCoins s.bal .feeCollector (.user p)
        (trip.filterMap fun x => if x.2.2 > 0 then some (x.1, x.2.2) else none) = some b ∧
      s' = { s with bal := b, hist := fun i => if i = p then
        trip.filterMap (fun x => if x.2.1 - x.2.2 > 0 then some (x.1, x.2.1 - x.2.2) else none) else s.hist i } := by
  revert h
  fun_cases sendFromCollector c s p amt <;> try (intro h; cases h; done)
  next trip ht hany pb h' b hb =>                       -- loop ok, no coin overpaid (`Coins.Sub`), the collector can pay
    intro h
    refine ⟨trip, b, ht, fun x hx => ?_, hb, (Except.ok.inj h).symm⟩
    exact Nat.not_lt.mp fun hlt => hany (List.any_eq_true.mpr ⟨x, hx, decide_eq_true hlt⟩)

def heldPlusPaid (s : State) (i : Nat) (d : String) : Nat := s.bal (.user i) d + amountOf (s.hist i) d

theorem sendFromCollector_heldPlusPaid {c : Cfg} {s s' : State} {p : Nat} {amt : Coins}
    (h : sendFromCollector c s p amt = .ok s') (i : Nat) (d : String) : heldPlusPaid s' i d = heldPlusPaid s i d := by
  obtain ⟨trip, b, ht, hle, hb, rfl⟩ := sendFromCollector_ok h
  obtain ⟨_, h2, h3⟩ := moveCoins_spec hb nofun d
  by_cases hi : i = p
  · have hc := trip_conserve trip hle d
    rw [paybackLoop_held ht] at hc
    subst hi
    simp only [heldPlusPaid, if_true]
    omega
  · simp only [heldPlusPaid, hi, if_false, h3 (.user i) nofun (fun hh => hi (Addr.user.inj hh))]

theorem returnLoop_heldPlusPaid {c : Cfg} {l : List ExecRec} {s s' : State} (h : returnLoop c l s = .ok s') (i : Nat)
    (d : String) : heldPlusPaid s' i d = heldPlusPaid s i d := by
  fun_induction returnLoop c l s <;> try (cases h; done)
  next => cases h; rfl
  next r rest s hf ih => exact ih h                                     -- no fee record for the type
  next r rest s f hf amount hpos s1 hs1 ih => rw [ih h, sendFromCollector_heldPlusPaid hs1]     -- refund paid back
  next r rest s f hf amount hpos ih => exact ih h                       -- nothing to refund for this record

theorem processExecutionFeeReturn_ok {c : Cfg} {s s' : State} (h : processExecutionFeeReturn c s = .ok s') :
    ∃ s1, returnLoop c s.execs s = .ok s1 ∧ s' = { s1 with execs := [] } := by
  revert h
  fun_cases processExecutionFeeReturn c s <;> try (intro h; cases h; done)
  next s1 hs1 => intro h; exact ⟨s1, hs1, (Except.ok.inj h).symm⟩

/-- one round of `addTokens` -/
theorem addToken_spec (o : List String) (t : String) :
    (∀ x, x ∈ (if o.contains t then o else o ++ [t]) ↔ x ∈ o ∨ x = t) ∧
      (o.Nodup → (if o.contains t then o else o ++ [t]).Nodup) := by
  by_cases ht : t ∈ o
  · rw [if_pos (List.contains_iff_mem.mpr ht)]
    exact ⟨fun x => ⟨.inl, fun hx => hx.elim id (· ▸ ht)⟩, id⟩
  · rw [if_neg (mt List.contains_iff_mem.mp ht)]
    exact ⟨fun x => by simp, fun h => nodup_append_singleton h ht⟩

/-- membership after `addTokens` needs no hypothesis on the list (contrast `removeTokens_spec`) -/
theorem addTokens_spec (o a : List String) :
    (∀ x, x ∈ addTokens o a ↔ x ∈ o ∨ x ∈ a) ∧ (o.Nodup → (addTokens o a).Nodup) := by
  unfold addTokens
  induction a generalizing o with
  | nil => simp
  | cons t ts ih =>
    obtain ⟨hmem, hnd⟩ := addToken_spec o t
    obtain ⟨h1, h2⟩ := ih (if o.contains t then o else o ++ [t])
    rw [List.foldl_cons]
    exact ⟨fun x => by rw [h1, hmem, List.mem_cons, or_assoc], fun h => h2 (hnd h)⟩

/-- one round of `removeTokens`, on any list -/
theorem swapRemove_perm (o : List String) (t : String) : (swapRemove o t).Perm (o.erase t) := by
  fun_induction swapRemove o t
  next => exact .refl _
  next xs t hl => simp [List.getLast?_eq_none_iff.mp hl]            -- `t` at the head of a one-element list
  next xs t l hl =>                                     -- `t` at the head: the last element `l` takes its place
    obtain ⟨ys, rfl⟩ := List.getLast?_eq_some_iff.mp hl
    simpa using List.perm_append_comm (l₁ := [l]) (l₂ := ys)
  next x xs t hx ih =>                                  -- another element at the head: kept
    rw [List.erase_cons_tail (by simpa using hx)]
    exact ih.cons x

theorem removeTokens_spec (o r : List String) (h : o.Nodup) :
    (removeTokens o r).Nodup ∧ ∀ x, x ∈ removeTokens o r ↔ x ∈ o ∧ x ∉ r := by
  unfold removeTokens
  induction r generalizing o with
  | nil => simp [h]
  | cons t ts ih =>
    have hp := swapRemove_perm o t
    obtain ⟨h1, h2⟩ := ih (swapRemove o t) (hp.nodup_iff.mpr (h.erase t))
    refine ⟨h1, fun x => ?_⟩
    rw [List.foldl_cons, h2, hp.mem_iff, h.mem_erase_iff, List.mem_cons, not_or, and_assoc, and_left_comm]

end Sekai.Lemmas.Ante
