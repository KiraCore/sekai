import Sekai.Model.Collect
import SekaiProofs.Lemmas.Spend
import SekaiProofs.Lemmas.Dec
/-! What the definitions of the collectives model do: portions, the guarded send, the successful calls of `withdrawK`,
`withdraw`, `sendDonation`, `distribute`, `executeRemove` inverted; which records the steps of the reward distribution leave
alone (the chain goes on in Props/C18 (i)) and which the dissolution loop removes. -/
namespace Sekai.Collect
open Sekai.Spend Sekai.Dec

theorem portionOf_eq (a : Nat) (p : Int) : portionOf a p = chopRound ((a : Int) * p) := roundMul_eq a p

theorem calcPortion_some {voc : List Denom} {coins m : Amt} {w : Int} (h : calcPortion voc coins w = some m) :
    m = fun d => (portionOf (coins d) w).toNat := by
  revert h
  fun_cases calcPortion voc coins w <;> try (intro h; cases h; done)
  next => intro h; cases h; rfl                                   -- no negative portion

theorem findColl_name {cs : List Coll} {n : Nat} {c : Coll} (h : findColl cs n = some c) : c.name = n := by
  simpa using List.find?_some h

theorem findContrib_key {l : List Contrib} {n : Nat} {a : Addr} {cc : Contrib} (h : findContrib l n a = some cc) :
    cc.coll = n ∧ cc.acct = a := by
  simpa using List.find?_some h

theorem COLL_ne_collAddr_donAddr (n : Nat) : COLL ≠ collAddr n ∧ COLL ≠ donAddr n := by
  constructor
  · intro h; have h' : (1000002 : Nat) = 2000000 + 2 * n := h; omega
  · intro h; have h' : (1000002 : Nat) = 2000001 + 2 * n := h; omega

theorem sendIfAny_spec {voc : List Denom} {b b' : Bank} {f t : Addr} {amt : Amt} (h : sendIfAny voc b f t amt = .ok b') :
    (∀ x, x ≠ f → x ≠ t → b' x = b x) ∧ (f ≠ t → ∀ d ∈ voc, b' t d = b t d + amt d) := by
  revert h
  fun_cases sendIfAny voc b f t amt
  next =>                                                         -- some amount is positive: `SendCoins`
    intro h
    obtain ⟨_, rfl⟩ := sendAmt_ok h
    exact ⟨fun x hf ht => move_other b f t x amt hf ht, fun hft d _ => move_to b f t amt hft d⟩
  next hne =>                                                     -- all zero: nothing is sent
    intro h; cases h
    refine ⟨fun _ _ _ => rfl, fun _ d hd => ?_⟩
    have : ¬ 0 < amt d := fun hp => hne (List.any_eq_true.2 ⟨d, hd, by simpa using hp⟩)
    omega

/-- what `withdrawK s c cc = .ok s'` (keeper `WithdrawCollective`) has passed and returns: `cb` goes from the collective's
account through `bank1`, `db` from its donation account through `bank2` -/
structure WithdrawKOk (s s' : State) (c : Coll) (cc : Contrib) (cb db : Amt) (bank1 bank2 : Bank) : Prop where
  bondPortion : calcPortion s.sp.voc cc.bonds (Dec.one - cc.donation) = some cb      -- `sdk.NewCoin` did not panic
  donPortion : calcPortion s.sp.voc cc.bonds cc.donation = some db
  bondSend : sendIfAny s.sp.voc s.sp.bank (collAddr c.name) cc.acct cb = .ok bank1
  donSend : sendIfAny s.sp.voc bank1 (donAddr c.name) cc.acct db = .ok bank2
  bondCovered : Amt.geOn s.sp.voc c.bonds cb = true                                  -- `Coins.Sub` on the record did not panic
  donCovered : Amt.geOn s.sp.voc (Amt.sub c.bonds cb) db = true
  state : s' = { s with sp := { s.sp with bank := bank2 },
                        colls := setColl s.colls { c with bonds := Amt.sub (Amt.sub c.bonds cb) db },
                        contribs := delContrib s.contribs cc.coll cc.acct }

theorem withdrawK_ok {s s' : State} {c : Coll} {cc : Contrib} (h : withdrawK s c cc = .ok s') :
    ∃ cb db bank1 bank2, WithdrawKOk s s' c cc cb db bank1 bank2 := by
  revert h
  fun_cases withdrawK s c cc <;> try (intro h; cases h; done)
  -- both portions computed (the `match` hands out `hdb` before `hcb`), both sends succeeded, the bonds record covers both
  next cb db hdb hcb bank1 h1 bank2 h2 hge1 _ hge2 =>
    intro h; cases h
    exact ⟨cb, db, bank1, bank2, {
      bondPortion := hcb, donPortion := hdb, bondSend := h1, donSend := h2, bondCovered := by simpa using hge1,
      donCovered := by simpa using hge2, state := rfl }⟩

/-- the two sends of a successful `MsgWithdrawCollective`, in the terms of the message. The collective that was found is not
returned, and of `s'` only the bank is said (the whole state: `withdrawK_ok`). -/
theorem withdraw_ok {s s' : State} {a : Addr} {n now : Nat} (h : withdraw s a n now = .ok s') :
    ∃ cc bank1, findContrib s.contribs n a = some cc ∧ cc.locking ≤ now ∧
      sendIfAny s.sp.voc s.sp.bank (collAddr n) a (fun d => (portionOf (cc.bonds d) (Dec.one - cc.donation)).toNat) = .ok bank1 ∧
      sendIfAny s.sp.voc bank1 (donAddr n) a (fun d => (portionOf (cc.bonds d) cc.donation).toNat) = .ok s'.sp.bank := by
  revert h
  fun_cases withdraw s a n now <;> try (intro h; cases h; done)
  next cc hcc hl c hc =>                                          -- a contributor, lock expired, the collective exists
    intro h
    obtain ⟨cb, db, bank1, bank2, hk⟩ := withdrawK_ok h
    have h1 := hk.bondSend
    have h2 := hk.donSend
    rw [calcPortion_some hk.bondPortion, findColl_name hc, (findContrib_key hcc).2] at h1
    rw [calcPortion_some hk.donPortion, findColl_name hc, (findContrib_key hcc).2] at h2
    rw [hk.state]
    exact ⟨cc, bank1, hcc, Nat.le_of_not_lt hl, h1, h2⟩

theorem withdraw_effect {s s' : State} {a : Addr} {n now : Nat} (ha1 : a ≠ collAddr n) (ha2 : a ≠ donAddr n)
    (h : withdraw s a n now = .ok s') :
    ∃ cc, findContrib s.contribs n a = some cc ∧ cc.locking ≤ now ∧
      ∀ d ∈ s.sp.voc, s'.sp.bank a d = s.sp.bank a d + (portionOf (cc.bonds d) (Dec.one - cc.donation)).toNat
                                                   + (portionOf (cc.bonds d) cc.donation).toNat := by
  obtain ⟨cc, bank1, hcc, hl, h1, h2⟩ := withdraw_ok h
  refine ⟨cc, hcc, hl, fun d hd => ?_⟩
  -- the second send adds to what the first left
  have e1 := (sendIfAny_spec h1).2 (Ne.symm ha1) d hd
  have e2 := (sendIfAny_spec h2).2 (Ne.symm ha2) d hd
  rw [e2, e1]

/-- what `sendDonation s n to coins = .ok s'` has passed and returns -/
structure SendDonationOk (s s' : State) (n : Nat) (to : Addr) (coins : List (Denom × Nat)) (c : Coll) (bank' : Bank) : Prop where
  coll : findColl s.colls n = some c
  covered : isAllGTE c.donations coins = true                     -- the donations record covers the coins
  valid : coinsValid coins = true                                 -- not ErrInvalidCoins
  sent : s.sp.bank.send COLL to coins = .ok bank'                 -- the collectives module account paid
  state : s' = { s with sp := { s.sp with bank := bank' },
                        colls := setColl s.colls { c with donations := Amt.sub c.donations (Amt.ofList coins) } }

theorem sendDonation_ok {s s' : State} {n : Nat} {to : Addr} {coins : List (Denom × Nat)}
    (h : sendDonation s n to coins = .ok s') : ∃ c bank', SendDonationOk s s' n to coins c bank' := by
  revert h
  fun_cases sendDonation s n to coins <;> try (intro h; cases h; done)
  next c hc hge hv bank' hb =>                                    -- every check passed, the bank paid
    intro h; cases h
    exact ⟨c, bank', { coll := hc, covered := by simpa using hge, valid := by simpa using hv, sent := hb, state := rfl }⟩

theorem mem_delContrib {l : List Contrib} {n : Nat} {a : Addr} {x : Contrib} :
    x ∈ delContrib l n a ↔ x ∈ l ∧ ¬ (x.coll = n ∧ x.acct = a) := by
  simp only [delContrib, List.mem_filter, Bool.not_eq_true', Bool.and_eq_false_iff, beq_eq_false_iff_ne, ne_eq, Classical.not_and_iff_not_or_not]

theorem withdrawAll_contribs {c : Coll} {l : List Contrib} {s s' : State} (h : withdrawAll s c l = .ok s') :
    ∀ x, x ∈ s'.contribs ↔ x ∈ s.contribs ∧ ∀ cc ∈ l, ¬ (x.coll = cc.coll ∧ x.acct = cc.acct) := by
  revert h
  fun_induction withdrawAll s c l <;> try (intro h; cases h; done)
  next => intro h; cases h; simp                                  -- no contributor left
  next s cc rest s1 hw ih =>                                      -- `cc` withdrew
    intro h x
    obtain ⟨_, _, _, _, hk⟩ := withdrawK_ok hw
    rw [ih h x, hk.state, mem_delContrib, List.forall_mem_cons, and_assoc]

theorem claimRewards_keeps_records {s s' : State} {a : Addr} {x : Amt} (h : claimRewards s a = .ok (s', x)) :
    s'.colls = s.colls ∧ s'.contribs = s.contribs := by
  revert h
  fun_cases claimRewards s a <;> try (intro h; cases h; done)
  next => intro h; cases h; exact ⟨rfl, rfl⟩                       -- the fee collector paid

theorem depositPools_keeps_records {s s' : State} {frm : Addr} {coins : Amt} {l : List (Nat × Int)}
    (h : depositPools s frm coins l = .ok s') : s'.colls = s.colls ∧ s'.contribs = s.contribs := by
  revert h
  fun_induction depositPools s frm coins l <;> try (intro h; cases h; done)
  next => intro h; cases h; exact ⟨rfl, rfl⟩                       -- no pool left
  next ih => exact ih                                             -- unknown pool: skipped
  next ih => exact ih                                             -- the portion was sent, the pool record credited

/-- the four steps of `distribute s c = .ok s'` (`DistributeCollectiveRewards`) in the order of the code, through the
intermediate states `s1 s2 s3` -/
structure DistributeOk (s s' : State) (c : Coll) (s1 s2 s3 : State) (coins dcoins : Amt) (b : Bank) : Prop where
  claimed : claimRewards s (collAddr c.name) = .ok (s1, coins)                       -- rewards of the collective's account
  deposited : depositPools s1 (collAddr c.name) coins c.pools = .ok s2               -- … go to the spending pools by weight
  donClaimed : claimRewards s2 (donAddr c.name) = .ok (s3, dcoins)                   -- rewards of the donation account
  donSent : s3.sp.bank.sendAmt (donAddr c.name) COLL s3.sp.voc dcoins = .ok b        -- … go to the collectives module account
  state : s' = { s3 with sp := { s3.sp with bank := b } }

theorem distribute_ok {s s' : State} {c : Coll} (h : distribute s c = .ok s') :
    ∃ s1 s2 s3 coins dcoins b, DistributeOk s s' c s1 s2 s3 coins dcoins b := by
  revert h
  fun_cases distribute s c <;> try (intro h; cases h; done)
  next s1 coins h1 s2 h2 s3 dcoins h3 b hb =>                     -- all four steps succeeded
    intro h; cases h
    exact ⟨s1, s2, s3, coins, dcoins, b, { claimed := h1, deposited := h2, donClaimed := h3, donSent := hb, state := rfl }⟩

theorem executeRemove_ok {s s' : State} {c : Coll} (h : executeRemove s c = .ok s') :
    ∃ s1 s2, distribute s c = .ok s1 ∧ withdrawAll s1 c (s1.contribs.filter (fun cc => cc.coll == c.name)) = .ok s2 ∧
      s' = { s2 with colls := s2.colls.filter (fun q => !(q.name == c.name)) } := by
  revert h
  fun_cases executeRemove s c <;> try (intro h; cases h; done)
  next s1 hd s2 hw => intro h; cases h; exact ⟨s1, s2, hd, hw, rfl⟩   -- the distribution and every withdrawal succeeded

end Sekai.Collect
