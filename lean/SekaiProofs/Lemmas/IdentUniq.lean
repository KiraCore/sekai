import SekaiProofs.Lemmas.IdentOps
/-! The uniqueness invariant `UInv = KeysLower ∧ Uniq` and its preservation by every keeper function. `KeysLower` rides along
because `uniqueOk` tests the key as given while the store holds it lower-cased: `UInv_putRecord` needs `lower r.key = r.key`.
The one message excluded is `setKeysWhole` (`MsgSetNetworkProperties` replaces the list with neither the old-keys check nor
the duplicate scan: `Applied.param` leaves `uniqueKeys` free for it). Last, `uniqB_iff`: the driver's oracle bit is `Uniq`. -/
namespace Sekai.Ident

def KeysLower (S : State) : Prop := ∀ r ∈ S.records, lower r.key = r.key

def Uniq (S : State) : Prop :=
  ∀ r1 ∈ S.records, ∀ r2 ∈ S.records, r1.key ∈ rawSplit S.uniqueKeys → r1.key = r2.key → r1.value = r2.value → r1.addr = r2.addr

def UInv (S : State) : Prop := KeysLower S ∧ Uniq S

theorem UInv_sub {S S' : State} (hs : ∀ x ∈ S'.records, x ∈ S.records) (hk : S'.uniqueKeys = S.uniqueKeys)
    (h : UInv S) : UInv S' := by
  refine ⟨fun r hr => h.1 r (hs r hr), ?_⟩
  intro r1 h1 r2 h2 hin
  rw [hk] at hin
  exact h.2 r1 (hs r1 h1) r2 (hs r2 h2) hin

theorem UInv_congr {S S' : State} (h : UInv S) (hr : S'.records = S.records) (hk : S'.uniqueKeys = S.uniqueKeys) : UInv S' :=
  UInv_sub (fun x hx => by rw [hr] at hx; exact hx) hk h

theorem UInv_recFrame {S S' : State} (f : RecFrame S S') (h : UInv S) : UInv S' := UInv_congr h f.records f.uniqueKeys

theorem uniqueOk_spec {S : State} {k v : String} {a : Nat} (h : uniqueOk S k v a = true) (hk : k ∈ rawSplit S.uniqueKeys) :
    ∀ x ∈ S.records, x.key = k → x.value = v → x.addr = a := by
  intro x hx hxk hxv
  unfold uniqueOk at h
  have hc : (rawSplit S.uniqueKeys).contains k = true := by simpa using hk
  rw [if_pos hc] at h
  have hmem : x.addr ∈ addrsByKV S k v := by
    unfold addrsByKV
    simp only [List.mem_map, List.mem_filter]
    exact ⟨x, ⟨hx, by simp [hxk, hxv]⟩, rfl⟩
  split at h
  · rename_i he; rw [he] at hmem; cases hmem
  · rename_i b he
    rw [he] at hmem
    simp only [List.mem_singleton] at hmem
    rw [hmem]; simpa using h
  · cases h

theorem UInv_putRecord {S : State} {r : Record} (h : UInv S) (hl : lower r.key = r.key)
    (hu : uniqueOk S r.key r.value r.addr = true) : UInv (putRecord S r) := by
  have hr' := formalised_eq hl
  constructor
  · intro x hx
    rcases mem_putRecord hx with e | ⟨hm, _⟩
    · rw [e]; exact lower_idem r.key
    · exact h.1 x hm
  · intro r1 h1 r2 h2 hin hk hv
    have huk : (putRecord S r).uniqueKeys = S.uniqueKeys := rfl
    rw [huk] at hin
    rcases mem_putRecord h1 with e1 | ⟨m1, _⟩ <;> rcases mem_putRecord h2 with e2 | ⟨m2, _⟩
    · rw [e1, e2]
    · rw [e1, hr'] at hin hk hv ⊢
      exact (uniqueOk_spec hu hin r2 m2 hk.symm hv.symm).symm
    · rw [e2, hr'] at hk hv ⊢
      rw [hk] at hin
      exact uniqueOk_spec hu hin r1 m1 hk hv
    · exact h.2 r1 m1 r2 m2 hin hk hv

theorem UInv_setRecord {S S' : State} {r : Record} (h : UInv S) (hl : lower r.key = r.key)
    (hs : setRecord S r = some S') : UInv S' := by
  obtain ⟨_, hu, rfl⟩ := setRecord_some hs
  exact UInv_putRecord h hl hu

theorem UInv_delete {S : State} (d : Nat) (h : UInv S) : UInv (deleteRecordById S d) :=
  UInv_sub (fun _ hx => (mem_delete hx).1) (delete_reqFrame S d).uniqueKeys h

theorem UInv_regApply {a : Nat} {infos : List Info} {S S' : State} {aff aff' : List Nat}
    (hl : ∀ i ∈ infos, lower i.key = i.key) (h : UInv S)
    (hr : regApply a infos S aff = some (S', aff')) : UInv S' :=
  regApply_rel (R := Keeps UInv) Keeps.refl Keeps.trans
    (fun {S i} n id hi hu h =>
      UInv_putRecord (r := ⟨id, a, i.key, i.value, S.now, []⟩) (UInv_congr h rfl rfl) (hl i hi) hu) hr h

theorem UInv_registerRecords {S S' : State} {a : Nat} {infos : List Info} (h : UInv S)
    (hr : registerRecords S a infos = some S') : UInv S' := by
  obtain ⟨infos', S1, aff, hc, ha, hi⟩ := registerRecords_some hr
  exact UInv_recFrame (cancelInvalid_recFrame hi) (UInv_regApply (regCheck_lower hc) h ha)

theorem UInv_deleteLoop {ids : List Nat} {S S' : State} (h : UInv S) (hd : deleteLoop ids S = some S') : UInv S' :=
  deleteLoop_rel (R := Keeps UInv) Keeps.refl Keeps.trans (fun _ id => UInv_delete id) hd h

theorem UInv_deleteRecords {S S' : State} {a : Nat} {keys : List String} (h : UInv S)
    (hd : deleteRecords S a keys = some S') : UInv S' := by
  obtain ⟨_, S2, hl, hc⟩ := deleteRecords_some hd
  have h0 : UInv { S with idx := S.idx.filter (fun e => !delSel a keys e) } := UInv_congr h rfl rfl
  exact UInv_recFrame (cancelInvalid_recFrame hc) (UInv_deleteLoop h0 hl)

theorem UInv_approveLoop {v : Nat} {ids : List Nat} {S S' : State} (h : UInv S)
    (ha : approveLoop v ids S = some S') : UInv S' :=
  approveLoop_rel (R := Keeps UInv) Keeps.refl Keeps.trans
    (fun {_ _ _ r} _ hr hs h =>
      UInv_setRecord (r := { r with verifiers := r.verifiers ++ [v] }) h (h.1 r (getRec_mem hr).1) hs) ha h

theorem UInv_handleVerify {S S' : State} {v id : Nat} {yes : Bool} (h : UInv S)
    (hh : handleVerify S v id yes = some S') : UInv S' := by
  obtain ⟨q, S1, S2, fresh, hd⟩ := handleVerify_some hh
  have h1 : UInv S1 := UInv_recFrame (payTip_recFrame hd.paid) h
  rw [hd.state]
  refine UInv_recFrame (deleteReq_recFrame _ _) ?_
  rcases hd.approved with ⟨_, rfl⟩ | ⟨_, ha⟩
  · exact h1
  · exact UInv_approveLoop h1 ha

theorem noDupUnder_eq {newKs : List String} {l : List Record} (h : noDupUnder newKs l = true) :
    ∀ r1 ∈ l, ∀ r2 ∈ l, r1.key ∈ newKs → r1.key = r2.key → r1.value = r2.value → r1 = r2 := by
  induction l with
  | nil => intro r1 h1; cases h1
  | cons x xs ih =>
    unfold noDupUnder at h
    simp only [Bool.and_eq_true, Bool.not_eq_true', Bool.and_eq_false_iff] at h
    obtain ⟨hx, hrest⟩ := h
    have key : ∀ y ∈ xs, x.key ∈ newKs → y.key = x.key → y.value = x.value → False := by
      intro y hy hin hk hv
      rcases hx with hx | hx
      · have : newKs.contains x.key = true := by simpa using hin
        rw [this] at hx; cases hx
      · have : xs.any (fun r2 => r2.key == x.key && r2.value == x.value) = true := by
          simp only [List.any_eq_true]
          exact ⟨y, hy, by simp [hk, hv]⟩
        rw [this] at hx; cases hx
    intro r1 h1 r2 h2 hin hk hv
    rcases List.mem_cons.mp h1 with e1 | m1 <;> rcases List.mem_cons.mp h2 with e2 | m2
    · rw [e1, e2]
    · subst e1; exact (key r2 m2 hin hk.symm hv.symm).elim
    · subst e2; rw [hk] at hin; exact (key r1 m1 hin hk hv).elim
    · exact ih hrest r1 m1 r2 m2 hin hk hv

theorem mem_splitKeys {k s : String} (h : k ∈ splitKeys s) : k ∈ rawSplit s := by
  unfold splitKeys at h
  split at h
  · cases h
  · exact h

theorem UInv_setKeysSingle {S S' : State} {new : String} (h : UInv S) (hs : setKeysSingle S new = some S') : UInv S' := by
  obtain ⟨hnd, hv, rfl⟩ := setKeysSingle_some hs
  have hne : (new == "") = false := by
    unfold validUniqueKeys at hv
    simp only [Bool.and_eq_true, bne_iff_ne, ne_eq] at hv
    simpa using hv.1.1.1
  refine ⟨h.1, ?_⟩
  intro r1 h1 r2 h2 hin hk hval
  change r1.key ∈ rawSplit new at hin
  by_cases hold : r1.key ∈ splitKeys S.uniqueKeys
  · exact h.2 r1 h1 r2 h2 (mem_splitKeys hold) hk hval
  · -- a key that is new in the list passed the duplicate scan: the two records are the same record
    have hnew : r1.key ∈ (splitKeys new).filter (fun k => !(splitKeys S.uniqueKeys).contains k) := by
      simp only [List.mem_filter]
      refine ⟨?_, by simpa using hold⟩
      unfold splitKeys; rw [hne]; exact hin
    rw [noDupUnder_eq hnd r1 h1 r2 h2 hnew hk hval]

theorem UInv_moveRecords {new : Nat} {recs : List Record} {S S' : State}
    (hl : ∀ r ∈ recs, lower r.key = r.key) (h : UInv S) (hm : moveRecords new recs S = some S') : UInv S' :=
  moveRecords_rel (R := Keeps UInv) Keeps.refl Keeps.trans
    (fun {_ _ r} hi hs h => UInv_setRecord (r := { r with addr := new }) (UInv_delete r.id h) (hl r hi) hs) hm h

theorem UInv_rotate {S S' : State} {p o n : Nat} {ok : Bool} (h : UInv S) (hr : rotate S p o n ok = some S') : UInv S' := by
  obtain ⟨S1, recs, S3, qs1, qs2, hd⟩ := rotate_some hr
  have u1 : UInv S1 := UInv_recFrame (rotateChecks_recFrame hd.checks) h
  have u3 : UInv S3 :=
    UInv_moveRecords (fun r hr => u1.1 r (getRec_mem ((collectRecs_spec hd.collected).2 r hr)).1) u1 hd.moved
  rw [hd.state]
  exact UInv_recFrame (rotateTail_recFrame _ _ qs1 qs2 S3 o n) u3

theorem UInv_apply {S S' : State} {o : Op} (h : UInv S) (hw : o.isSetKeysWhole = false) (ha : apply S o = some S') : UInv S' := by
  cases apply_applied ha with
  | register c _ hr => exact UInv_registerRecords (S := { S with councilors := c }) (UInv_congr h rfl rfl) hr
  | delete hd => exact UInv_deleteRecords h hd
  | request hr => exact UInv_recFrame (requestVerify_recFrame hr) h
  | handle hh => exact UInv_handleVerify h hh
  | cancel hc => exact UInv_recFrame (cancelReq_recFrame hc) h
  | setKeysSingle hs => exact UInv_setKeysSingle h hs
  | param hk => exact UInv_congr h rfl (hk hw)
  | rotate hr => exact UInv_rotate h hr

theorem UInv_step {S : State} {o : Op} (h : UInv S) (hw : o.isSetKeysWhole = false) : UInv (step S o) :=
  step_cases h fun _ => UInv_apply h hw

theorem UInv_run (ops : List Op) {S : State} (h : UInv S) (hw : ∀ o ∈ ops, o.isSetKeysWhole = false) : UInv (run S ops) :=
  List.foldlRecOn ops step h fun _ hS o ho => UInv_step hS (hw o ho)

/-- the driver's oracle bit computes the predicate of C16's uniqueness theorems -/
theorem uniqB_iff (S : State) : uniqB S = true ↔ Uniq S := by
  unfold uniqB Uniq
  simp only [List.all_eq_true, Bool.not_eq_true', Bool.and_eq_false_iff, List.contains_eq_mem,
    decide_eq_false_iff_not, beq_eq_false_iff_ne, ne_eq, bne_eq_false_iff_eq]
  constructor
  · intro h r1 h1 r2 h2 hin hk hv
    rcases h r1 h1 r2 h2 with ((h' | h') | h') | h'
    · exact absurd hin h'
    · exact absurd hk h'
    · exact absurd hv h'
    · exact h'
  · intro h r1 h1 r2 h2
    by_cases hin : r1.key ∈ rawSplit S.uniqueKeys
    · by_cases hk : r1.key = r2.key
      · by_cases hv : r1.value = r2.value
        · exact Or.inr (h r1 h1 r2 h2 hin hk hv)
        · exact Or.inl (Or.inr hv)
      · exact Or.inl (Or.inl (Or.inr hk))
    · exact Or.inl (Or.inl (Or.inl hin))

end Sekai.Ident
