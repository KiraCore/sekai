import Sekai.Model.Recovery
import SekaiProofs.Lemmas.Lookup
/-! Lemmas about the x/recovery model: the bank primitives (what a send, a mint, a burn do to balances); each move of a rotation
as ONE equation `move old new S = { S with … }` (the claims store through `carryIf`: selected slices carried from the old to the new
address, on `Sekai.carry`; `moveCompound` and `moveReqs` are used as the model has them); every message inverted (`…_ok`, for the
big ones with a structure of the checks that passed; for the holder rotation also the converse) with the result state
`{ S with … }` over the state at entry (but `allocate_ok` without a token record: that is a `send`); `Rotates`, either rotation,
with what the two agree on. `newPool` (MsgUpsertStakingPool, `newPool_some`) is no `Op` of the model: along `run` nothing writes
`lastPool` and `poolIds` only shrinks.
That a field is unchanged: for a field the operation never writes, by `rfl` on the closed form or from `apply_writes`; for an
entry of a third address in a store a rotation DOES write, from `RotFrame`; after a `send`, from `send_writes`. -/
namespace Sekai.Recovery

/-! ## bank -/

section
variable {S S' : State} {src dst : Addr} {d : Denom} {amt : Int}

theorem send_ok (h : send S src dst d amt = .ok S') :
    0 ≤ amt ∧ amt ≤ S.bal src d ∧
    S' = { S with
      bal := fun a d' =>
        if d' = d then
          (if src = dst then S.bal a d'
           else if a = src then S.bal a d' - amt else if a = dst then S.bal a d' + amt else S.bal a d')
        else S.bal a d',
      hasAcc := fun a => if a = dst then true else S.hasAcc a } := by
  unfold send at h
  split at h
  · cases h  -- a negative amount
  · split at h
    · cases h  -- insufficient funds
    · cases h  -- sent
      refine ⟨by omega, by omega, ?_⟩
      simp only [setBal]
      congr 1
      funext a d'
      by_cases hd : d' = d
      · subst hd
        by_cases hsd : src = dst
        · subst hsd
          by_cases ha : a = src
          · subst ha; simp
          · simp [ha]
        · by_cases ha : a = src
          · subst ha; simp [hsd]
          · by_cases hb : a = dst
            · subst hb; simp [ha, hsd]
            · simp [ha, hb, hsd]
      · simp [hd]

theorem send_bal (h : send S src dst d amt = .ok S') (a : Addr) (d' : Denom) :
    S'.bal a d' =
      if d' = d then
        (if src = dst then S.bal a d'
         else if a = src then S.bal a d' - amt else if a = dst then S.bal a d' + amt else S.bal a d')
      else S.bal a d' := by
  obtain ⟨_, _, rfl⟩ := send_ok h
  rfl

theorem send_bal_other (h : send S src dst d amt = .ok S') (a : Addr)
    (d' : Denom) (h1 : a ≠ src) (h2 : a ≠ dst) : S'.bal a d' = S.bal a d' := by
  rw [send_bal h, if_neg h1, if_neg h2]
  simp only [ite_self]

theorem send_bal_src (h : send S src dst d amt = .ok S') (hne : src ≠ dst) :
    S'.bal src d = S.bal src d - amt := by
  rw [send_bal h, if_pos rfl, if_neg hne, if_pos rfl]

theorem send_bal_dst (h : send S src dst d amt = .ok S') (hne : src ≠ dst) :
    S'.bal dst d = S.bal dst d + amt := by
  rw [send_bal h, if_pos rfl, if_neg hne, if_neg (Ne.symm hne), if_pos rfl]

theorem send_bal_ge (h : send S src dst d amt = .ok S') {a : Addr}
    (ha : a ≠ src) (d' : Denom) : S.bal a d' ≤ S'.bal a d' := by
  obtain ⟨h0, _, _⟩ := send_ok h
  rw [send_bal h, if_neg ha]
  split
  · split
    · exact Int.le_refl _
    · split <;> omega
  · exact Int.le_refl _

theorem send_writes (h : send S src dst d amt = .ok S') :
    S' = { S with bal := S'.bal, hasAcc := S'.hasAcc } := by
  obtain ⟨_, _, rfl⟩ := send_ok h
  rfl

/-- the fields a send does not write, one by one; `lastPool` is not among them (`send_writes` has the whole frame, and is what the
proofs rewrite with) -/
structure SendFrame (S S' : State) : Prop where
  supply : S'.supply = S.supply
  denoms : S'.denoms = S.denoms
  secret : S'.secret = S.secret
  token : S'.token = S.token
  byDenom : S'.byDenom = S.byDenom
  rotated : S'.rotated = S.rotated
  holders : S'.holders = S.holders
  hRewards : S'.hRewards = S.hRewards
  claims : S'.claims = S.claims
  poolIds : S'.poolIds = S.poolIds
  vals : S'.vals = S.vals
  byCons : S'.byCons = S.byCons
  queue : S'.queue = S.queue
  reg : S'.reg = S.reg
  reqs : S'.reqs = S.reqs
  slashProps : S'.slashProps = S.slashProps
  corrupt : S'.corrupt = S.corrupt
  bond : S'.bond = S.bond
  order : S'.order = S.order

theorem send_frame (h : send S src dst d amt = .ok S') : SendFrame S S' := by
  obtain ⟨_, _, rfl⟩ := send_ok h
  constructor <;> rfl

end

theorem send_hasAcc {S S' : State} {src dst : Addr} {d : Denom} {amt : Int} (h : send S src dst d amt = .ok S') (a : Addr) :
    S'.hasAcc a = if a = dst then true else S.hasAcc a := by
  obtain ⟨_, _, rfl⟩ := send_ok h
  rfl

theorem mint_bal (S : State) (d : Denom) (x : Int) (a : Addr) (d' : Denom) :
    (mint S d x).bal a d' = if a = modAcc ∧ d' = d then S.bal modAcc d + x else S.bal a d' := rfl

theorem burnCoins_ok {S S' : State} {d : Denom} {amt : Int} (h : burnCoins S d amt = .ok S') :
    0 ≤ amt ∧ amt ≤ S.bal modAcc d ∧
    S' = { S with bal := fun a' d' => if a' = modAcc ∧ d' = d then S.bal modAcc d - amt else S.bal a' d',
                  supply := fun d' => if d' = d then S.supply d - amt else S.supply d' } := by
  revert h
  fun_cases burnCoins S d amt <;> try (intro h; cases h; done)
  next => intro h; cases h; exact ⟨by omega, by omega, rfl⟩  -- the amount is not negative and the module has it

/-! ## the claims store with slices carried over, and the moves of a rotation -/

/-- `carry` on the slices `(k, s)` of the claims store that `p` selects -/
def carryIf (p : Kind → Nat → Prop) [∀ k s, Decidable (p k s)] (old new : Addr)
    (c : Kind → Nat → Addr → Option Nat) : Kind → Nat → Addr → Option Nat :=
  fun k s => if p k s then carry old new (c k s) else c k s

/-- not by `rfl`: `dsimp` would then use it inside the selectors of enclosing `carryIf`s, where `simp` cannot go to evaluate the
conditions it produces (the `Decidable` instance depends on the selector). Inside the proofs of the `move*_eq` below `unfold carryIf`
is fine: there is no enclosing `carryIf` -/
theorem carryIf_apply (p : Kind → Nat → Prop) [∀ k s, Decidable (p k s)] (old new : Addr)
    (c : Kind → Nat → Addr → Option Nat) (k : Kind) (s : Nat) :
    carryIf p old new c k s = if p k s then carry old new (c k s) else c k s := by
  simp only [carryIf]

theorem carryIf_other {p : Kind → Nat → Prop} [∀ k s, Decidable (p k s)] {old new a : Addr} (c : Kind → Nat → Addr → Option Nat)
    (k : Kind) (s : Nat) (h1 : a ≠ old) (h2 : a ≠ new) : carryIf p old new c k s a = c k s a := by
  unfold carryIf
  split
  · exact carry_other _ h1 h2
  · rfl

theorem carryIf_new {p : Kind → Nat → Prop} [∀ k s, Decidable (p k s)] {old new : Addr} {c : Kind → Nat → Addr → Option Nat}
    {k : Kind} {s v : Nat} (hp : p k s) (h : c k s old = some v) : carryIf p old new c k s new = some v := by
  rw [carryIf_apply, if_pos hp]
  exact carry_new h

theorem carryIf_eq_self {p : Kind → Nat → Prop} [∀ k s, Decidable (p k s)] {old new : Addr}
    {c : Kind → Nat → Addr → Option Nat} (h : ∀ k s, p k s → c k s old = none) : carryIf p old new c = c := by
  funext k s
  unfold carryIf
  split
  · exact carry_of_none (h k s (by assumption))
  · rfl

theorem moveClaim_eq (k : Kind) (old new : Addr) (S : State) :
    moveClaim k old new S = { S with claims := carryIf (fun k' _ => k' = k) old new S.claims } := by
  unfold moveClaim carryIf
  congr 1
  funext k' s a
  by_cases h : k' = k
  · rw [if_pos h, if_pos h]; subst h; unfold carry; cases S.claims k' s old <;> rfl
  · rw [if_neg h, if_neg h]

theorem moveClaim1_eq (k : Kind) (s0 : Nat) (old new : Addr) (S : State) :
    moveClaim1 k s0 old new S = { S with claims := carryIf (fun k' s => k' = k ∧ s = s0) old new S.claims } := by
  unfold moveClaim1 carryIf
  congr 1
  funext k' s a
  by_cases h : k' = k ∧ s = s0
  · rw [if_pos h, if_pos h]; obtain ⟨rfl, rfl⟩ := h; unfold carry; cases S.claims k' s old <;> rfl
  · rw [if_neg h, if_neg h]

theorem moveDelegators_eq (old new : Addr) (S : State) :
    moveDelegators old new S =
      { S with claims := carryIf (fun k s => k = .delegator ∧ S.poolIds.contains s) old new S.claims } := by
  unfold moveDelegators carryIf
  congr 1
  funext k' s a
  by_cases h : k' = .delegator ∧ S.poolIds.contains s
  · rw [if_pos h, if_pos h]; obtain ⟨rfl, _⟩ := h; unfold carry; cases S.claims .delegator s old <;> rfl
  · rw [if_neg h, if_neg h]

theorem moveRewards_eq (old new : Addr) (S : State) :
    moveRewards old new S =
      { S with claims := carryIf (fun k s => k = .rewards ∧ s = 0 ∧ S.claims .rewards 0 old ≠ some 0) old new S.claims } := by
  unfold moveRewards
  cases h : S.claims .rewards 0 old with
  | none => rw [carryIf_eq_self (fun k s hp => by obtain ⟨rfl, rfl, _⟩ := hp; exact h)]
  | some v =>
    dsimp only
    split
    · rename_i hv; subst hv
      rw [carryIf_eq_self (fun k s hp => absurd rfl hp.2.2)]
    · rename_i hv
      rw [moveClaim1_eq]
      congr 1
      funext k s
      unfold carryIf
      by_cases hp : k = .rewards ∧ s = 0
      · rw [if_pos hp, if_pos ⟨hp.1, hp.2, fun e => hv (Option.some.inj e)⟩]
      · rw [if_neg hp, if_neg (fun hh => hp ⟨hh.1, hh.2.1⟩)]

theorem movePool_eq (old new : Addr) (S : State) :
    movePool old new S =
      { S with claims := carryIf (fun k s => k = .pool ∧ s = 0) old new S.claims,
               poolIds := match S.claims .pool 0 old, S.claims .pool 0 new with
                 | some _, some w => if old = new then S.poolIds else S.poolIds.filter (fun i => i ≠ w)
                 | _, _ => S.poolIds } := by
  unfold movePool
  cases h : S.claims .pool 0 old with
  | none => rw [carryIf_eq_self (fun k s hp => by obtain ⟨rfl, rfl⟩ := hp; exact h)]
  | some v =>
    dsimp only
    rw [moveClaim1_eq]
    split
    · cases S.claims .pool 0 new <;> rfl
    · cases S.claims .pool 0 new <;> rfl

theorem moveVal_eq (old new : Addr) (S : State) :
    moveVal old new S =
      { S with vals := carry old new S.vals,
               byCons := fun c => match S.vals old with
                 | none => S.byCons c
                 | some v => if c = v.cons then some new else S.byCons c } := by
  unfold moveVal carry
  cases h : S.vals old with
  | none => rfl
  | some v =>
    simp only [addValidator, removeValidator]
    congr 1
    funext c
    by_cases hc : c = v.cons <;> simp [hc]

theorem moveCoins_eq (old new : Addr) (S : State) :
    moveCoins old new S =
      { S with
        bal := fun a d =>
          if S.denoms.any (fun d => decide (0 < S.bal old d)) then
            (if a = old then (if old = new then S.bal old d else 0)
             else if a = new then S.bal new d + S.bal old d else S.bal a d)
          else S.bal a d,
        hasAcc := fun a => if S.denoms.any (fun d => decide (0 < S.bal old d)) ∧ a = new then true else S.hasAcc a } := by
  unfold moveCoins
  split
  · rename_i h; simp only [h, true_and]
  · rename_i h; simp only [h, Bool.false_eq_true, false_and, if_false]

theorem moveCoins_bal_other {old new a : Addr} (S : State) (d : Denom) (h1 : a ≠ old) (h2 : a ≠ new) :
    (moveCoins old new S).bal a d = S.bal a d := by
  simp only [moveCoins_eq, if_neg h1, if_neg h2, ite_self]

theorem moveToken_eq (old new : Addr) (tok : Token) (S : State) :
    moveToken old new tok S =
      { S with token := fun a => if a = new then some tok else if a = old then none else S.token a,
               byDenom := fun d => if d = tok.denom then some new else S.byDenom d } := by
  simp only [moveToken]
  congr 1
  funext d
  by_cases h : d = tok.denom
  · rw [if_pos h, if_pos h]
  · rw [if_neg h, if_neg h, if_neg h]

theorem moveProposals_eq_ok {old : Addr} {S : State} {c : Bool} :
    moveProposals old S = .ok c ↔ S.corrupt = false ∧ c = S.slashProps.any (fun p => p.2 = old) := by
  unfold moveProposals
  cases S.corrupt <;> simp [eq_comm]

theorem moveClaim_claims_old {k : Kind} {old new : Addr} {S : State} {s v : Nat} (h : S.claims k s old = some v) (hne : old ≠ new) :
    (moveClaim k old new S).claims k s old = none := by
  simp only [moveClaim_eq, carryIf_apply, if_true]
  exact carry_old _ hne

theorem moveDelegators_claims_old {old new : Addr} {S : State} {s v : Nat} (h : S.claims .delegator s old = some v)
    (hp : S.poolIds.contains s = true) (hne : old ≠ new) : (moveDelegators old new S).claims .delegator s old = none := by
  simp only [moveDelegators_eq, carryIf_apply, hp, and_self, if_true]
  exact carry_old _ hne

theorem movePool_claims_old {old new : Addr} {S : State} {v : Nat} (h : S.claims .pool 0 old = some v) (hne : old ≠ new) :
    (movePool old new S).claims .pool 0 old = none := by
  simp only [movePool_eq, carryIf_apply, and_self, if_true]
  exact carry_old _ hne

theorem moveRewards_claims_old {old new : Addr} {S : State} {v : Nat} (h : S.claims .rewards 0 old = some v) (hv : v ≠ 0) (hne : old ≠ new) :
    (moveRewards old new S).claims .rewards 0 old = none := by
  have : S.claims .rewards 0 old ≠ some 0 := fun e => hv (Option.some.inj (h.symm.trans e))
  simp only [moveRewards_eq, carryIf_apply, this, ne_eq, not_false_eq_true, and_self, if_true]
  exact carry_old _ hne

theorem moveVal_vals_old {old new : Addr} {S : State} {v : Val} (h : S.vals old = some v) (hne : old ≠ new) :
    (moveVal old new S).vals old = none := by
  rw [moveVal_eq]
  exact carry_old _ hne

/-! ## the messages other than the rotations -/

theorem registerSecret_ok {S S' : State} {a : Addr} {c : Nat} {p : Option Nat} (h : registerSecret S a c p = .ok S') :
    S.token a = none ∧ (∀ ch, S.secret a = some ch → p = some ch) ∧
    S' = { S with secret := fun a' => if a' = a then some c else S.secret a' } := by
  revert h
  fun_cases registerSecret S a c p <;> try (intro h; cases h; done)
  next ht ch hch q hne =>  -- a secret is on record and the proof matches it
    intro h; cases h
    refine ⟨by simpa using ht, fun ch' hch' => ?_, rfl⟩
    rw [hch] at hch'; cases hch'
    rw [Decidable.of_not_not hne]
  next ht hnone =>  -- no secret on record yet
    intro h; cases h
    exact ⟨by simpa using ht, fun ch hch => (by rw [hnone] at hch; cases hch), rfl⟩

theorem issue_ok {S S' : State} {a : Addr} (h : issue S a = .ok S') :
    ∃ S1 S3,
      S' = { S with
        bal := S3.bal, hasAcc := S3.hasAcc,
        supply := fun d => if d = rrDenom S a then S.supply (rrDenom S a) + issueAmount else S.supply d,
        denoms := if S.denoms.contains (rrDenom S a) then S.denoms else rrDenom S a :: S.denoms,
        token := fun a' => if a' = a then some ⟨rrDenom S a, issueAmount, S.bond⟩ else S.token a',
        byDenom := fun d => if d = rrDenom S a then some a else S.byDenom d } ∧
      S.token a = none ∧ send S a modAcc ukex S.bond = .ok S1 ∧ validDenom (rrDenom S a) = true ∧
      send (mint S1 (rrDenom S a) issueAmount) modAcc a (rrDenom S a) issueAmount = .ok S3 := by
  revert h
  fun_cases issue S a <;> try (intro h; cases h; done)
  next ht S1 hs1 hv S3 hs3 =>  -- no record yet, the bond is paid, the denomination is valid, the minted tokens are handed over
    intro h; cases h
    refine ⟨S1, S3, ?_, by simpa using ht, hs1, by simpa using hv, hs3⟩
    rw [send_writes hs3, send_writes hs1]
    rfl

theorem payRedeem_ok {S S1 : State} {a : Addr} {r : Int} (h : payRedeem S a r = .ok S1) :
    (r = 0 ∧ S1 = S) ∨ (r ≠ 0 ∧ send S modAcc a ukex r = .ok S1) := by
  unfold payRedeem at h
  split at h
  · cases h; left; exact ⟨by assumption, rfl⟩  -- nothing to redeem: no send at all
  · right; exact ⟨by assumption, h⟩  -- the module pays

theorem payRedeem_bal {S S1 : State} {a : Addr} {r : Int} (h : payRedeem S a r = .ok S1) (ha : a ≠ modAcc) :
    S1.bal modAcc ukex = S.bal modAcc ukex - r ∧ S1.bal a ukex = S.bal a ukex + r := by
  rcases payRedeem_ok h with ⟨rfl, rfl⟩ | ⟨_, hs⟩
  · omega
  · exact ⟨send_bal_src hs (Ne.symm ha), send_bal_dst hs (Ne.symm ha)⟩

theorem payRedeem_writes {S S1 : State} {a : Addr} {r : Int} (h : payRedeem S a r = .ok S1) :
    S1 = { S with bal := S1.bal, hasAcc := S1.hasAcc } := by
  rcases payRedeem_ok h with ⟨_, rfl⟩ | ⟨_, hs⟩
  · rfl
  · exact send_writes hs

/-- the steps `BurnRecoveryTokens` took when it was accepted -/
structure BurnSteps (S : State) (a : Addr) (d : Denom) (amt : Int) (owner : Addr) (tok : Token) (S1 S2 S3 : State) : Prop where
  byDenom : S.byDenom d = some owner
  token : S.token owner = some tok
  supply : tok.rrSupply ≠ 0
  redeem : payRedeem S a (redeemOf tok amt) = .ok S1
  taken : send S1 a modAcc d amt = .ok S2
  burnt : burnCoins S2 d amt = .ok S3
  covered : 0 ≤ tok.underlying - redeemOf tok amt

theorem burn_ok {S S' : State} {a : Addr} {d : Denom} {amt : Int} (h : burn S a d amt = .ok S') :
    ∃ owner tok S1 S2 S3,
      S' = { S with
        bal := S3.bal, hasAcc := S3.hasAcc,
        supply := fun d' => if d' = d then S.supply d - amt else S.supply d',
        token := fun a' => if a' = owner then
            (if tok.rrSupply - amt = 0 then none else some ⟨tok.denom, tok.rrSupply - amt, tok.underlying - redeemOf tok amt⟩)
          else S.token a',
        byDenom := fun d' => if d' = tok.denom then (if tok.rrSupply - amt = 0 then none else some owner) else S.byDenom d' } ∧
      BurnSteps S a d amt owner tok S1 S2 S3 := by
  revert h
  fun_cases burn S a d amt <;> try (intro h; cases h; done)
  next owner ho tok ht hz S1 h1 S2 h2 S3 h3 hu =>
    intro h; cases h
    refine ⟨owner, tok, S1, S2, S3, ?_,
      { byDenom := ho, token := ht, supply := hz, redeem := h1, taken := h2, burnt := h3, covered := by omega }⟩
    obtain ⟨_, _, e3⟩ := burnCoins_ok h3
    rw [e3, send_writes h2, payRedeem_writes h1]
    by_cases h0 : tok.rrSupply - amt = 0
    · simp only [burnRecord, h0, if_true]
    · simp only [burnRecord, h0, if_false]

theorem claim_ok {S S' : State} {a : Addr} (h : claim S a = .ok S') :
    ∃ S1, send S modAcc a ukex (S.hRewards a) = .ok S1 ∧
      S' = { S with bal := S1.bal, hasAcc := S1.hasAcc, hRewards := fun a' => if a' = a then 0 else S.hRewards a' } := by
  revert h
  fun_cases claim S a <;> try (intro h; cases h; done)
  next S1 h1 =>  -- the module could pay
    intro h; cases h
    refine ⟨S1, h1, ?_⟩
    rw [send_writes h1]

theorem regLoop_spec (S : State) (h : Addr) (l : List Addr) :
    ∃ hs, regLoop S h l = { S with holders := hs } ∧ ∀ x ∈ hs, x ∈ S.holders ∨ x.2 = h := by
  induction l with
  | nil => exact ⟨S.holders, rfl, fun x hx => .inl hx⟩
  | cons a rest ih =>
    simp only [regLoop]
    split
    · exact ih  -- `a` has no token record
    · split
      · exact ih  -- already registered for this denomination
      · split
        · exact ⟨_, rfl, fun x hx => (List.mem_cons.mp hx).elim (fun e => .inr (by rw [e])) .inl⟩  -- holds enough: registered, the loop ends
        · exact ih  -- holds too little

theorem registerHolder_ok {S S' : State} {h : Addr} (hr : registerHolder S h = .ok S') :
    ∃ hs, S' = { S with holders := hs } ∧ ∀ x ∈ hs, x ∈ S.holders ∨ x.2 = h := by
  cases hr
  exact regLoop_spec S h S.order

theorem mem_holdersOf_unregisterLow {S S1 : State} (hh : S1.holders = S.holders) {d d' : Denom} {x : Addr}
    (hx : x ∈ holdersOf (unregisterLow S1 d) d') : x ∈ holdersOf S d' := by
  unfold holdersOf at hx ⊢
  obtain ⟨y, hy, rfl⟩ := List.mem_map.mp hx
  obtain ⟨hy1, hy2⟩ := List.mem_filter.mp hy
  exact List.mem_map.mpr ⟨y, List.mem_filter.mpr ⟨hh ▸ (List.mem_filter.mp hy1).1, hy2⟩, rfl⟩

theorem creditAll_other (S : State) (d : Denom) (amt sup : Int) (hs : List Addr) (f : Addr → Int) (a : Addr) (ha : a ∉ hs) :
    creditAll S d amt sup hs f a = f a := by
  induction hs generalizing f with
  | nil => rfl
  | cons h rest ih =>
    simp only [creditAll]
    rw [ih _ (fun hm => ha (List.mem_cons_of_mem _ hm))]
    have : a ≠ h := fun e => ha (e ▸ List.mem_cons_self)
    simp [this]

theorem increaseUnderlying_ok {S2 S' : State} {v : Addr} {tok : Token} {amt : Int} (h : increaseUnderlying S2 v tok amt = .ok S') :
    0 ≤ amt - sumAlloc S2 tok.denom amt (S2.supply tok.denom) (holdersOf S2 tok.denom) ∧
    S' = { S2 with
      hRewards := creditAll S2 tok.denom amt (S2.supply tok.denom) (holdersOf S2 tok.denom) S2.hRewards,
      token := fun a => if a = v then
          some ⟨tok.denom, tok.rrSupply, tok.underlying + (amt - sumAlloc S2 tok.denom amt (S2.supply tok.denom) (holdersOf S2 tok.denom))⟩
        else S2.token a,
      byDenom := fun d => if d = tok.denom then some v else S2.byDenom d } := by
  revert h
  fun_cases increaseUnderlying S2 v tok amt <;> try (intro h; cases h; done)
  next => intro h; cases h; exact ⟨by omega, rfl⟩  -- no division by zero, the allocations do not exceed the amount

theorem allocate_ok {S S' : State} {v : Addr} {amt : Int} (h : allocate S v amt = .ok S') :
    (S.token v = none ∧ send S feeAcc v ukex amt = .ok S') ∨
    (∃ tok S1 S2,
      S' = { S with
        bal := S1.bal, hasAcc := S1.hasAcc, holders := S2.holders,
        hRewards := creditAll S2 tok.denom amt (S2.supply tok.denom) (holdersOf S2 tok.denom) S.hRewards,
        token := fun a => if a = v then
            some ⟨tok.denom, tok.rrSupply, tok.underlying + (amt - sumAlloc S2 tok.denom amt (S2.supply tok.denom) (holdersOf S2 tok.denom))⟩
          else S.token a,
        byDenom := fun d => if d = tok.denom then some v else S.byDenom d } ∧
      S.token v = some tok ∧ send S feeAcc modAcc ukex amt = .ok S1 ∧ S2 = unregisterLow S1 tok.denom ∧
      0 ≤ amt - sumAlloc S2 tok.denom amt (S2.supply tok.denom) (holdersOf S2 tok.denom)) := by
  revert h
  fun_cases allocate S v amt <;> try (intro h; cases h; done)
  next ht S1 h1 =>  -- no token record: the validator is paid
    intro h; cases h
    exact .inl ⟨ht, h1⟩
  next tok ht S1 h1 =>  -- a token record: the module is paid, `increaseUnderlying` decides
    intro h
    obtain ⟨h0, rfl⟩ := increaseUnderlying_ok h
    refine .inr ⟨tok, S1, _, ?_, ht, h1, rfl, h0⟩
    simp only [unregisterLow]
    rw [send_writes h1]

theorem newPool_some {S S' : State} {a : Addr} (h : newPool S a = some S') :
    (∃ i, S.claims .pool 0 a = some i ∧ S' = S) ∨
    (S.claims .pool 0 a = none ∧
      S' = { S with lastPool := S.lastPool + 1, poolIds := (S.lastPool + 1) :: S.poolIds,
                    claims := fun k s a' => if k = Kind.pool ∧ s = 0 ∧ a' = a then some (S.lastPool + 1) else S.claims k s a' }) := by
  unfold newPool at h
  cases hv : S.vals a with
  | none => rw [hv] at h; cases h  -- the sender owns no validator
  | some v =>
    rw [hv] at h
    cases hp : S.claims .pool 0 a with
    | some i => simp only [hp, Option.some.injEq] at h; exact .inl ⟨i, rfl, h.symm⟩  -- the pool exists: only (re-)enabled
    | none => simp only [hp, Option.some.injEq] at h; exact .inr ⟨rfl, h.symm⟩  -- a new pool with the next id

/-! ## the two rotations -/

/-- the sub-key conditions under which the three staking stores are carried over, the same in both rotations: of the pool and
the rewards store only sub-key 0 (`movePool`; `moveRewards`, and only rewards that are not zero), of the delegator flags only
those of existing pools (`moveDelegators`). The other kinds are moved with all their sub-keys (`moveClaim`) -/
def carriedSub (S : State) (old : Addr) (k : Kind) (s : Nat) : Prop :=
  (k = .pool → s = 0) ∧ (k = .rewards → s = 0 ∧ S.claims .rewards 0 old ≠ some 0) ∧ (k = .delegator → S.poolIds.contains s)

/-- the slices `(k, s)` of the claims store that the holder rotation carries over: those of the moves of `holderMoves1`
(delegators, rewards, pool, councilor) and `holderTail` (actor, vote). `.compound` is in neither selector: `moveCompound` writes
that slice underneath, it is never carried -/
def holderCarried (S : State) (old : Addr) (k : Kind) (s : Nat) : Prop :=
  (k = .vote ∨ k = .actor ∨ k = .councilor ∨ k = .pool ∨ k = .rewards ∨ k = .delegator) ∧ carriedSub S old k s

/-- … that the secret rotation carries over: every kind but `.compound` has a move in `secretTail` / `secretMoves2` -/
def secretCarried (S : State) (old : Addr) (k : Kind) (s : Nat) : Prop :=
  k ≠ .compound ∧ carriedSub S old k s

instance (S : State) (old : Addr) (k : Kind) (s : Nat) : Decidable (holderCarried S old k s) := by
  unfold holderCarried carriedSub; infer_instance
instance (S : State) (old : Addr) (k : Kind) (s : Nat) : Decidable (secretCarried S old k s) := by
  unfold secretCarried carriedSub; infer_instance

theorem holderCarried_whole {S : State} {old : Addr} {k : Kind} (hk : k = .vote ∨ k = .actor ∨ k = .councilor) (s : Nat) :
    holderCarried S old k s := by
  rcases hk with rfl | rfl | rfl <;> simp [holderCarried, carriedSub]

theorem holderCarried_pool {S : State} {old : Addr} : holderCarried S old .pool 0 := by simp [holderCarried, carriedSub]

theorem holderCarried_rewards {S : State} {old : Addr} {v : Nat} (h : S.claims .rewards 0 old = some v) (hv : v ≠ 0) :
    holderCarried S old .rewards 0 := by
  simp [holderCarried, carriedSub, h, hv]

theorem holderCarried_delegator {S : State} {old : Addr} {s : Nat} (h : S.poolIds.contains s = true) :
    holderCarried S old .delegator s := by
  simpa [holderCarried, carriedSub] using h

theorem not_holderCarried_compound {S : State} {old : Addr} {s : Nat} : ¬ holderCarried S old .compound s := by
  simp [holderCarried]

theorem secretCarried_pool {S : State} {old : Addr} : secretCarried S old .pool 0 := by simp [secretCarried, carriedSub]

/-- the checks `RotateValidatorByHalfRRTokenHolder` passed when it was accepted -/
structure HolderChecks (S : State) (m : HolderMsg) (tok : Token) (R : Reg) (c : Bool) : Prop where
  token : S.token m.addr = some tok
  half : ¬ (2 * S.bal m.holder tok.denom < S.supply tok.denom)
  fresh : S.rotated m.recovery = none
  reg : moveIdentity m.addr m.recovery S.reg = .ok R
  proposals : moveProposals m.addr S = .ok c

/-- `RotateValidatorByHalfRRTokenHolder` accepted. The moves do not interfere, so each store is what ITS move makes of the state
at entry -/
theorem rotateByHolder_ok {S S' : State} {m : HolderMsg} (h : rotateByHolder S m = .ok S') :
    ∃ tok R c,
      S' = { S with
        rotated := fun a => if a = m.addr then some m.recovery else S.rotated a,
        token := fun a => if a = m.recovery then some tok else if a = m.addr then none else S.token a,
        byDenom := fun d => if d = tok.denom then some m.recovery else S.byDenom d,
        claims := carryIf (holderCarried S m.addr) m.addr m.recovery (moveCompound m.addr m.recovery S).claims,
        poolIds := (movePool m.addr m.recovery S).poolIds,
        vals := (moveVal m.addr m.recovery S).vals,
        byCons := (moveVal m.addr m.recovery S).byCons,
        reqs := (moveReqs m.addr m.recovery S).reqs,
        reg := R, corrupt := c } ∧
      HolderChecks S m tok R c := by
  revert h
  fun_cases rotateByHolder S m <;> try (intro h; cases h; done)
  next tok htok hth hrot =>  -- the token exists, the holder has half, the target has no history: the tail ran
    fun_cases holderTail S (holderMoves1 m.addr m.recovery tok (withRotation S m.addr m.recovery)) m.addr m.recovery <;> try (intro h; cases h; done)
    next R hR c hc =>  -- the identity records moved and the proposals unpacked
      intro h
      cases h
      refine ⟨tok, R, c, ?_, { token := htok, half := hth, fresh := by simpa using hrot, reg := hR, proposals := hc }⟩
      simp only [holderMoves1, withRotation, moveToken_eq, moveReqs, moveCompound, moveClaim_eq, moveDelegators_eq, moveRewards_eq,
        movePool_eq, moveVal_eq]
      -- the two sides differ only in the way the sub-key conditions are written
      congr 1
      funext k s
      cases k with
      | delegator | rewards | pool =>
        simp only [carryIf_apply, holderCarried, carriedSub, reduceCtorEq, false_and, if_false, or_false, true_and,
          or_true, false_imp_iff, true_imp_iff, and_true]
      | _ => rfl

theorem rotateByHolder_of_checks {S : State} {m : HolderMsg} {tok : Token} {R : Reg} {c : Bool} (h : HolderChecks S m tok R c) :
    ∃ S', rotateByHolder S m = .ok S' := by
  unfold rotateByHolder
  rw [h.token]
  simp only
  rw [if_neg h.half, h.fresh]
  simp only [Option.isSome_none, Bool.false_eq_true, if_false]
  unfold holderTail
  rw [h.reg, h.proposals]
  exact ⟨_, rfl⟩

/-- the checks `RotateRecoveryAddress` passed when it was accepted; `S1`: the state after the fee -/
structure SecretChecks (S : State) (m : SecretMsg) (S1 : State) (R : Reg) (c : Bool) : Prop where
  fee : send S m.feePayer modAcc ukex recoveryFee = .ok S1
  noToken : S.token m.addr = none
  proof : ∃ ch, S.secret m.addr = some ch ∧ m.proof = some ch
  fresh : S.rotated m.recovery = none
  oldAcc : S1.hasAcc m.addr = true
  newAcc : S1.hasAcc m.recovery = false
  reg : moveIdentity m.addr m.recovery S.reg = .ok R
  proposals : moveProposals m.addr S = .ok c

/-- `RotateRecoveryAddress` accepted, likewise; the coins move in the state `S1` after the fee -/
theorem rotateBySecret_ok {S S' : State} {m : SecretMsg} (h : rotateBySecret S m = .ok S') :
    ∃ S1 R c,
      S' = { S with
        bal := (moveCoins m.addr m.recovery S1).bal,
        hasAcc := (moveCoins m.addr m.recovery S1).hasAcc,
        rotated := fun a => if a = m.addr then some m.recovery else S.rotated a,
        claims := carryIf (secretCarried S m.addr) m.addr m.recovery (moveCompound m.addr m.recovery S).claims,
        poolIds := (movePool m.addr m.recovery S).poolIds,
        vals := (moveVal m.addr m.recovery S).vals,
        byCons := (moveVal m.addr m.recovery S).byCons,
        reqs := (moveReqs m.addr m.recovery S).reqs,
        reg := R, corrupt := c } ∧
      SecretChecks S m S1 R c := by
  revert h
  fun_cases rotateBySecret S m <;> try (intro h; cases h; done)
  next htok S1 hs =>  -- no token record, the fee is paid
    fun_cases secretChecks S S1 m <;> try (intro h; cases h; done)
    next ch hch p hp hpc hrot hacc hacc2 =>  -- a recovery record, a hex proof that matches, no history, the two account checks
      fun_cases secretTail S (withRotation S1 m.addr m.recovery) m.addr m.recovery <;> try (intro h; cases h; done)
      next R hR c hc =>  -- the identity records moved and the proposals unpacked
        intro h
        cases h
        have e := send_writes hs
        refine ⟨S1, R, c, ?_, {
          fee := hs, noToken := by simpa using htok, fresh := by rw [e] at hrot; simpa using hrot,
          proof := ⟨ch, by rw [e] at hch; exact hch, by rw [hp, Decidable.of_not_not hpc]⟩,
          oldAcc := by simpa using hacc, newAcc := by simpa using hacc2, reg := hR, proposals := hc }⟩
        rw [e]
        simp only [secretMoves2, withRotation, moveReqs, moveCompound, moveClaim_eq, moveDelegators_eq, moveRewards_eq,
          movePool_eq, moveVal_eq, moveCoins_eq]
        congr 1
        funext k s
        cases k with
        | delegator | rewards | pool =>
          simp only [carryIf_apply, secretCarried, carriedSub, reduceCtorEq, false_and, if_false, true_and, ne_eq, not_false_eq_true,
            false_imp_iff, true_imp_iff, and_true]
        | _ => rfl

theorem rotClaims_other {p : Kind → Nat → Prop} [∀ k s, Decidable (p k s)] {old new a : Addr} (S : State) (k : Kind) (s : Nat)
    (h1 : a ≠ old) (h2 : a ≠ new) : carryIf p old new (moveCompound old new S).claims k s a = S.claims k s a := by
  rw [carryIf_other _ k s h1 h2]
  simp only [moveCompound, if_neg h1, if_neg h2, ite_self]

/-- what a rotation `old → new` leaves alone: these fields entirely, and in the stores keyed by the address every entry of a third
address. `rotated` is among the fields, so the two lemmas below compare with the state that already has the history entry
(`withRotation`) -/
structure RotFrame (old new : Addr) (S S' : State) : Prop where
  supply : S'.supply = S.supply
  denoms : S'.denoms = S.denoms
  secret : S'.secret = S.secret
  rotated : S'.rotated = S.rotated
  holders : S'.holders = S.holders
  hRewards : S'.hRewards = S.hRewards
  queue : S'.queue = S.queue
  slashProps : S'.slashProps = S.slashProps
  bond : S'.bond = S.bond
  order : S'.order = S.order
  bal : ∀ a d, a ≠ old → a ≠ new → S'.bal a d = S.bal a d
  hasAcc : ∀ a, a ≠ new → S'.hasAcc a = S.hasAcc a
  token : ∀ a, a ≠ old → a ≠ new → S'.token a = S.token a
  claims : ∀ k s a, a ≠ old → a ≠ new → S'.claims k s a = S.claims k s a
  vals : ∀ a, a ≠ old → a ≠ new → S'.vals a = S.vals a

theorem rotateByHolder_frame {S S' : State} {m : HolderMsg} (h : rotateByHolder S m = .ok S') :
    RotFrame m.addr m.recovery (withRotation S m.addr m.recovery) S' := by
  obtain ⟨tok, R, c, rfl, _⟩ := rotateByHolder_ok h
  exact {
    supply := rfl, denoms := rfl, secret := rfl, rotated := rfl, holders := rfl, hRewards := rfl, queue := rfl,
    slashProps := rfl, bond := rfl, order := rfl
    bal := fun _ _ _ _ => rfl
    hasAcc := fun _ _ => rfl
    token := fun a ha hb => (if_neg hb).trans (if_neg ha)
    claims := fun k s a ha hb => rotClaims_other S k s ha hb
    vals := fun a ha hb => by
      simp only [moveVal_eq]
      exact carry_other _ ha hb }

/-- the frame of the secret rotation is over the state `S1` after the fee (with the history entry written): `RotFrame` compares
balances, and those of the fee payer and the module differ from the state at entry -/
theorem rotateBySecret_frame {S S' : State} {m : SecretMsg} (h : rotateBySecret S m = .ok S') :
    ∃ S1, send S m.feePayer modAcc ukex recoveryFee = .ok S1 ∧ RotFrame m.addr m.recovery (withRotation S1 m.addr m.recovery) S' := by
  obtain ⟨S1, R, c, rfl, hc⟩ := rotateBySecret_ok h
  refine ⟨S1, hc.fee, ?_⟩
  rw [send_writes hc.fee]
  exact {
    supply := rfl, denoms := rfl, secret := rfl, rotated := rfl, holders := rfl, hRewards := rfl, queue := rfl,
    slashProps := rfl, bond := rfl, order := rfl
    bal := fun a d ha hb => moveCoins_bal_other _ d ha hb
    hasAcc := fun a hb => by simp only [moveCoins_eq, withRotation, hb, and_false, if_false]
    token := fun _ _ _ => rfl
    claims := fun k s a ha hb => rotClaims_other S k s ha hb
    vals := fun a ha hb => by
      simp only [moveVal_eq]
      exact carry_other _ ha hb }

/-- an accepted rotation `old → new` by either message. Three theorems of Props/REC spell this disjunction out in their hypothesis
and `Rotates.effect h` applies to such an `h` as it stands; `rotation_keeps_pool_ids` has it without `old` / `new` and builds a
`Rotates` first -/
def Rotates (S : State) (old new : Addr) (S' : State) : Prop :=
  (∃ m : SecretMsg, m.addr = old ∧ m.recovery = new ∧ rotateBySecret S m = .ok S') ∨
  (∃ m : HolderMsg, m.addr = old ∧ m.recovery = new ∧ rotateByHolder S m = .ok S')

theorem Rotates.of_secret {S S' : State} {m : SecretMsg} (h : rotateBySecret S m = .ok S') : Rotates S m.addr m.recovery S' :=
  .inl ⟨m, rfl, rfl, h⟩

theorem Rotates.of_holder {S S' : State} {m : HolderMsg} (h : rotateByHolder S m = .ok S') : Rotates S m.addr m.recovery S' :=
  .inr ⟨m, rfl, rfl, h⟩

/-- what the two rotations agree on, as far as `RecoveryValidators` and the theorems of Props/REC about both rotations need it -/
structure Rotates.Effect (S : State) (old new : Addr) (S' : State) : Prop where
  reg : moveIdentity old new S.reg = .ok S'.reg
  proposals : moveProposals old S = .ok S'.corrupt
  vals : S'.vals = (moveVal old new S).vals
  byCons : S'.byCons = (moveVal old new S).byCons
  queue : S'.queue = S.queue
  lastPool : S'.lastPool = S.lastPool
  pool : S'.claims .pool 0 = carry old new (S.claims .pool 0)

theorem Rotates.effect {S S' : State} {old new : Addr} (h : Rotates S old new S') : Rotates.Effect S old new S' := by
  rcases h with ⟨m, rfl, rfl, hm⟩ | ⟨m, rfl, rfl, hm⟩
  · obtain ⟨S1, R, c, rfl, hc⟩ := rotateBySecret_ok hm
    refine { reg := hc.reg, proposals := hc.proposals, vals := rfl, byCons := rfl, queue := rfl, lastPool := rfl, pool := ?_ }
    dsimp only
    rw [carryIf_apply, if_pos secretCarried_pool]
    rfl  -- `moveCompound` writes the `.compound` slice only: under the `carry`, the `.pool` slice is that of `S`
  · obtain ⟨tok, R, c, rfl, hc⟩ := rotateByHolder_ok hm
    refine { reg := hc.reg, proposals := hc.proposals, vals := rfl, byCons := rfl, queue := rfl, lastPool := rfl, pool := ?_ }
    dsimp only
    rw [carryIf_apply, if_pos holderCarried_pool]
    rfl

/-! ## all operations -/

/-- the stores each operation MAY write. `S' = { S with f := S'.f, … }` says: every field not listed is that of `S`; of the listed
ones nothing is said. Use, for all the operations a proof is not about: `cases op with … | _ => have e : S' = _ := apply_writes hap`
(the ascription makes the `match` reduce at the constructor), then `rw [e]`, and an unlisted field of `S'` is that of `S` by `rfl` -/
theorem apply_writes {S S' : State} {op : Op} (h : apply S op = .ok S') :
    match (generalizing := false) op with
    | .register .. => S' = { S with secret := S'.secret }
    | .rotateSecret _ => S' = { S with
        bal := S'.bal, hasAcc := S'.hasAcc, rotated := S'.rotated, claims := S'.claims, poolIds := S'.poolIds, vals := S'.vals,
        byCons := S'.byCons, reqs := S'.reqs, reg := S'.reg, corrupt := S'.corrupt }
    | .rotateHolder _ => S' = { S with
        rotated := S'.rotated, token := S'.token, byDenom := S'.byDenom, claims := S'.claims, poolIds := S'.poolIds, vals := S'.vals,
        byCons := S'.byCons, reqs := S'.reqs, reg := S'.reg, corrupt := S'.corrupt }
    | .issue _ => S' = { S with
        bal := S'.bal, hasAcc := S'.hasAcc, supply := S'.supply, denoms := S'.denoms, token := S'.token, byDenom := S'.byDenom }
    | .burn .. => S' = { S with bal := S'.bal, hasAcc := S'.hasAcc, supply := S'.supply, token := S'.token, byDenom := S'.byDenom }
    | .claim _ => S' = { S with bal := S'.bal, hasAcc := S'.hasAcc, hRewards := S'.hRewards }
    | .regHolder _ => S' = { S with holders := S'.holders }
    | .allocate .. => S' = { S with
        bal := S'.bal, hasAcc := S'.hasAcc, holders := S'.holders, hRewards := S'.hRewards, token := S'.token, byDenom := S'.byDenom }
    | .xfer .. => S' = { S with bal := S'.bal, hasAcc := S'.hasAcc } := by
  cases op with
  | register a c p => obtain ⟨_, _, rfl⟩ := registerSecret_ok h; rfl
  | rotateSecret m => obtain ⟨S1, R, c, rfl, _⟩ := rotateBySecret_ok h; rfl
  | rotateHolder m => obtain ⟨tok, R, c, rfl, _⟩ := rotateByHolder_ok h; rfl
  | issue a => obtain ⟨S1, S3, rfl, _⟩ := issue_ok h; rfl
  | burn a d n => obtain ⟨_, _, _, _, _, rfl, _⟩ := burn_ok h; rfl
  | claim a => obtain ⟨S1, _, rfl⟩ := claim_ok h; rfl
  | regHolder a => obtain ⟨hs, rfl, _⟩ := registerHolder_ok h; rfl
  | allocate v n =>
    rcases allocate_ok h with ⟨_, hs⟩ | ⟨tok, S1, S2, rfl, _⟩
    · obtain ⟨_, _, rfl⟩ := send_ok hs; rfl
    · rfl
  | xfer a b d n => exact send_writes h

theorem step_cases {P : State → Prop} {S : State} {op : Op} (h0 : P S) (h : ∀ S', apply S op = .ok S' → P S') : P (step S op) := by
  unfold step
  split
  · rename_i S' ha; exact h S' ha
  · exact h0

end Sekai.Recovery

