import Sekai.Model.Mint
import SekaiProofs.Lemmas.Dec
/-! `Sekai.Mint`: what the inflation mint and the end-of-block snapshots do; the registry's writes and the UBI upsert
inverted (an accepted write says what was stored and which test it passed). -/
namespace Sekai.Mint

/-- `+ 1`: the rounding of `Dec.quo`; `rate` is the 10^18-scaled decimal, hence `Dec.P` -/
theorem targetSupply_le {snapAmt snapTime now : Int} {rate : Dec.D} {period : Int}
    (hs : 0 ≤ snapAmt) (hr : 0 ≤ rate) (ht : snapTime ≤ now) (hp : 0 < period) :
    targetSupply snapAmt snapTime now rate period ≤
      snapAmt + (snapAmt * rate * (now - snapTime)) / (period * Dec.P) + 1 := by
  unfold targetSupply
  rw [Dec.ofInt_mul, Dec.mul_ofInt]
  have hx : 0 ≤ snapAmt * rate * (now - snapTime) :=
    Int.mul_nonneg (Int.mul_nonneg hs hr) (by omega)
  have := Dec.truncInt_quo_ofInt_le hx hp
  omega

theorem inflationMint_eq {ySnapAmt ySnapTime pSnapAmt pSnapTime supply now : Int} {maxAnnual rate : Dec.D} {period : Int} :
    inflationMint ySnapAmt ySnapTime pSnapAmt pSnapTime supply now maxAnnual rate period =
      if inflationPossible ySnapAmt ySnapTime supply now maxAnnual = true ∧ supply < targetSupply pSnapAmt pSnapTime now rate period
      then targetSupply pSnapAmt pSnapTime now rate period - supply else 0 := by
  fun_cases inflationMint ySnapAmt ySnapTime pSnapAmt pSnapTime supply now maxAnnual rate period
  next h => exact (if_neg fun e => by rw [e.1] at h; cases h).symm      -- the annual gate is closed
  next h _ ht => exact (if_pos ⟨by simpa using h, ht⟩).symm              -- the target is above the supply
  next _ _ ht => exact (if_neg fun e => ht e.2).symm                     -- the supply has reached the target

theorem inflEnd_snap (c : InflCfg) (s : Infl) (now : Int) :
    (inflEnd c s now).supply = s.supply ∧
    (((inflEnd c s now).pTime = s.pTime ∧ (inflEnd c s now).pAmt = s.pAmt) ∨
      ((inflEnd c s now).pTime = now ∧ (inflEnd c s now).pAmt = s.supply)) ∧
    (((inflEnd c s now).yTime = s.yTime ∧ (inflEnd c s now).yAmt = s.yAmt) ∨
      ((inflEnd c s now).yTime = now ∧ (inflEnd c s now).yAmt = s.supply)) := by
  simp only [inflEnd]
  split <;> split <;> simp

theorem inflBegin_snap (c : InflCfg) (s : Infl) (now : Int) (f : Bool) :
    (inflBegin c s now f).pTime = s.pTime ∧ (inflBegin c s now f).pAmt = s.pAmt ∧
    (inflBegin c s now f).yTime = s.yTime ∧ (inflBegin c s now f).yAmt = s.yAmt := by
  unfold inflBegin; split <;> simp

theorem inflBegin_supply (c : InflCfg) (s : Infl) (now : Int) :
    (inflBegin c s now false).supply =
      s.supply + inflationMint s.yAmt s.yTime s.pAmt s.pTime s.supply now c.maxAnnual c.rate c.period := rfl

theorem ubiApply_some_some {records rs' : List (Nat × Nat)} {replace : Option Nat} {amount period hardcap : Nat}
    (h : ubiApply records replace amount period hardcap = some (some rs')) :
    accept yearSeconds word records amount period hardcap = true ∧
      (rs' = records ++ [(amount, period)] ∨ ∃ j, j < records.length ∧ rs' = records.set j (amount, period)) := by
  have hacc : ubiUpsert records amount period hardcap = some true →
      accept yearSeconds word records amount period hardcap = true := by
    unfold ubiUpsert; split <;> simp
  revert h
  fun_cases ubiApply records replace amount period hardcap <;> try (intro h; cases h; done)   -- panic, rejection
  all_goals intro h; cases h
  next => exact ⟨hacc ‹_›, .inr ⟨_, ‹_›, rfl⟩⟩     -- under the name of the j-th stored record: overwritten
  next => exact ⟨hacc ‹_›, .inl rfl⟩              -- `replace` is not an index of a stored record: appended
  next => exact ⟨hacc ‹_›, .inl rfl⟩              -- a new name: appended

theorem capOk_le {t : TokenInfo} (h : capOk t = true) (hc : 0 < t.cap) : t.supply ≤ t.cap := by
  simp only [capOk, Bool.not_eq_true', Bool.and_eq_false_iff, decide_eq_false_iff_not] at h
  omega

theorem registryMint_eq_some {t t' : TokenInfo} {bank bank' amt : Int} :
    registryMint t bank amt = some (t', bank') ↔
      capOk { t with supply := t.supply + amt } = true ∧ t' = { t with supply := t.supply + amt } ∧ bank' = bank + amt := by
  simp only [registryMint, Option.ite_none_right_eq_some, Option.some.injEq, Prod.mk.injEq, eq_comm (b := t'),
    eq_comm (b := bank')]

theorem govEdit_eq_some {t t' : TokenInfo} {ps pc : Int} : govEdit t ps pc = some t' ↔ capOk t = true ∧ t' = t := by
  simp only [govEdit, Option.ite_none_right_eq_some, Option.some.injEq, eq_comm (b := t')]

/-- the owner-edit branch of UpsertTokenInfo. For a capped token the model's two cap tests (`newCap < 0`; `t.cap < newCap ∨
newCap = 0`) are stated together: the new cap is positive and not above the old one -/
theorem ownerEdit_eq_some {t t' : TokenInfo} {sender newOwner : Nat} {newCap : Int} {nd : Bool} :
    ownerEdit t sender newCap newOwner nd = some t' ↔
      t.owner = sender ∧ t.ownerEditDisabled = false ∧ (t.cap ≠ 0 → 0 < newCap ∧ newCap ≤ t.cap) ∧
      capOk { t with cap := newCap, owner := newOwner, ownerEditDisabled := nd } = true ∧
      t' = { t with cap := newCap, owner := newOwner, ownerEditDisabled := nd } := by
  simp only [ownerEdit, Option.ite_none_left_eq_some, Option.ite_none_right_eq_some, Option.some.injEq, not_or, not_and,
    Decidable.not_not, Bool.not_eq_true, eq_comm (b := t')]
  constructor
  · rintro ⟨⟨ho, hd⟩, h2, h3, hr⟩
    exact ⟨ho, hd, fun c => by have := h2 c; have := h3 c; omega, hr⟩
  · rintro ⟨ho, hd, h, hr⟩
    exact ⟨⟨ho, hd⟩, fun c => by have := h c; omega, fun c => by have := h c; omega, hr⟩

end Sekai.Mint
