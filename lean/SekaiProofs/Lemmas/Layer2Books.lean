import SekaiProofs.Lemmas.Layer2Ops
/-! The books of the bond escrow (`BooksInv`: unique dApp names, unique bond keys, no orphan record, and for every bootstrapping
dApp `TotalBond = Σ user bonds` in one denom) and the maximum-bond invariant, per operation and along runs without an UpsertDapp
proposal (the maximum also needs creations within it: `Op.withinMax`). Neither needs a hypothesis on dApp names: a prefix
collision in the refund scan does not disturb the books. Last, what the refund of a failed bootstrap over the dApp's OWN records
pays back and when it goes through (`OwnRefund`; the scan returns exactly those records when no name collides: `scan_eq_own`). -/
namespace Sekai.Layer2

def Op.isUpsert : Op → Bool
  | .upsert _ => true
  | _ => false

/-- `BooksInv` on the two lists, so that its closure lemmas (`books_setDapp`, `books_filter_del`) are about list edits -/
structure BooksInvL (ds : List Dapp) (bs : List UBond) : Prop where
  keysNodup : (keys bs).Nodup
  noOrphan : ∀ b ∈ bs, b.dapp ∈ names ds
  namesNodup : (names ds).Nodup
  sumEq : ∀ d ∈ ds, d.status = 0 → d.bond = bondSum bs d.name
  denomEq : ∀ d ∈ ds, d.status = 0 → ∀ b ∈ bs, b.dapp = d.name → b.denom = d.bondDenom

def BooksInv (s : St) : Prop := BooksInvL s.dapps s.bonds

/-- the general preservation lemma of the books -/
theorem books_setDapp {ds : List Dapp} {bs bs' : List UBond} {rec_ : Dapp} (h : BooksInvL ds bs) (hk : (keys bs').Nodup)
    (hin : ∀ b ∈ bs', b.dapp = rec_.name ∨ b ∈ bs) (hsum : ∀ n, n ≠ rec_.name → bondSum bs' n = bondSum bs n)
    (hrec : rec_.status = 0 → rec_.bond = bondSum bs' rec_.name ∧ ∀ b ∈ bs', b.dapp = rec_.name → b.denom = rec_.bondDenom) :
    BooksInvL (setDapp ds rec_) bs' := by
  refine ⟨hk, fun b hb => ?_, names_setDapp_nodup h.namesNodup, fun x hx hst => ?_, fun x hx hst b hb hbd => ?_⟩
  · rw [mem_names_setDapp]
    exact (hin b hb).imp_right (h.noOrphan b)
  · rcases (mem_setDapp h.namesNodup).mp hx with rfl | ⟨hx', hne⟩
    · exact (hrec hst).1
    · rw [hsum _ hne]
      exact h.sumEq x hx' hst
  · rcases (mem_setDapp h.namesNodup).mp hx with rfl | ⟨hx', hne⟩
    · exact (hrec hst).2 b hb hbd
    · exact h.denomEq x hx' hst b ((hin b hb).resolve_left (fun e => hne (hbd.symm.trans e))) hbd

theorem books_filter_del {ds : List Dapp} {bs : List UBond} {name : Bytes} {p : UBond → Bool} (h : BooksInvL ds bs)
    (hdel : ∀ b ∈ bs, b.dapp = name → p b = false) (hkeep : ∀ b ∈ bs, b.dapp ≠ name → p b = true) :
    BooksInvL (delDapp ds name) (bs.filter p) := by
  refine ⟨keys_filter_nodup p h.keysNodup, ?_, h.namesNodup.sublist (List.filter_sublist.map _), ?_, ?_⟩
  · intro b hb
    obtain ⟨hb1, hb2⟩ := List.mem_filter.mp hb
    have hne : b.dapp ≠ name := fun hd => by rw [hdel b hb1 hd] at hb2; cases hb2
    obtain ⟨d, hd, hdn⟩ := List.mem_map.mp (h.noOrphan b hb1)
    exact List.mem_map.mpr ⟨d, mem_delDapp.mpr ⟨hd, hdn ▸ hne⟩, hdn⟩
  · intro x hx hst
    obtain ⟨hx1, hx2⟩ := mem_delDapp.mp hx
    rw [bondSum_filter_of_keep (fun b hb hbd => hkeep b hb (hbd ▸ hx2))]
    exact h.sumEq x hx1 hst
  · intro x hx hst b hb hbd
    exact h.denomEq x (mem_delDapp.mp hx).1 hst b (List.mem_filter.mp hb).1 hbd

/-- Under the books the two alternatives of `BondStep.stored` read the same: at a creation too both stored amounts grow by `δ` from
the recorded sums. -/
theorem BondStep.grew {s s' : St} {u : Nat} {δ μ : Int} {r : Dapp} {nb : UBond} (h : BondStep s s' u δ μ r nb) (hI : BooksInv s) :
    nb.amt = bondAmt s.bonds r.name u + δ ∧
    (r.status = 0 → r.bond = bondSum s.bonds r.name + δ ∧ ∀ b ∈ s.bonds, b.dapp = r.name → b.denom = r.bondDenom) := by
  rcases h.stored with ⟨hf, hb, ha⟩ | ⟨d, hf, hden, hs, hb, ha⟩
  · -- no dApp under the name, hence (no orphans) no bond record either
    have habs : ∀ b ∈ s.bonds, b.dapp ≠ r.name := fun b hb hbd => by
      obtain ⟨d, hd, hdn⟩ := List.mem_map.mp (hI.noOrphan b hb)
      exact findDapp_none hf d hd (hdn.trans hbd)
    rw [bondSum_eq_zero habs, bondAmt_eq_zero (fun b hb hk => habs b hb hk.1), ha, hb]
    exact ⟨by omega, fun _ => ⟨by omega, fun b hb hbd => absurd hbd (habs b hb)⟩⟩
  · obtain ⟨hd, hdn⟩ := findDapp_some hf
    refine ⟨ha, fun hst => ⟨?_, fun b hb hbd => ?_⟩⟩
    · rw [hb, ← hdn, ← hI.sumEq d hd (hs ▸ hst)]
    · rw [hden]
      exact hI.denomEq d hd (hs ▸ hst) b hb (hbd.trans hdn.symm)

theorem BondStep.books {s s' : St} {u : Nat} {δ μ : Int} {r : Dapp} {nb : UBond} (h : BondStep s s' u δ μ r nb)
    (hI : BooksInv s) : BooksInv s' := by
  obtain ⟨k1, k2, k3⟩ := h.key
  obtain ⟨ha, hr⟩ := h.grew hI
  unfold BooksInv at hI ⊢
  rw [h.dapps, h.bonds]
  refine books_setDapp hI (keys_setBond_nodup hI.keysNodup) (fun b hb => (mem_of_mem_setBond hb).elim (fun e => Or.inl (e ▸ k1)) Or.inr)
    (fun n hn => ?_) (fun hst => ⟨?_, fun b hb hbd => ?_⟩)
  · rw [bondSum_setBond, if_neg (k1 ▸ Ne.symm hn), Int.add_zero]
  · rw [bondSum_setBond, if_pos k1, k1, k2, (hr hst).1, ha]
    omega
  · rcases mem_of_mem_setBond hb with rfl | hb'
    · exact k3
    · exact (hr hst).2 b hb' hbd

theorem books_endBlockDapp {s s' : St} {t : Nat} {d : Dapp} (hI : BooksInv s) (h : endBlockDapp s t d = .ok s') : BooksInv s' := by
  unfold BooksInv at hI ⊢
  rcases endBlockDapp_cases h with rfl | ⟨_, s1, hs1, rfl⟩ | ⟨r, hr⟩
  · exact hI
  · -- refund and removal: the scan holds all the own records
    simp only [(refundLoop_some hs1).bonds, (refundLoop_some hs1).dapps, delBondsOf_eq_filter]
    exact books_filter_del hI (fun b hb hbd => keepP_of_mem hbd (hbd ▸ own_in_scan hb)) (fun b _ hbd => keepP_of_ne _ hbd)
  · -- a record that is not bootstrapping is written; the bond records stay, or those under its name are filtered out
    rw [hr.dapps]
    rcases hr.records with ⟨hbs, _⟩ | ⟨hbs, _⟩ <;> rw [hbs]
    · exact books_setDapp hI hI.keysNodup (fun _ => Or.inr) (fun _ _ => rfl) (fun hs0 => absurd hs0 hr.notBootstrap)
    · rw [delBondsOf_eq_filter]
      exact books_setDapp hI (keys_filter_nodup _ hI.keysNodup) (fun b hb => Or.inr (List.mem_filter.mp hb).1)
        (fun n hn => bondSum_filter_of_keep (fun b _ hbd => keepP_of_ne _ (hr.name ▸ hbd ▸ hn)))
        (fun hs0 => absurd hs0 hr.notBootstrap)

theorem books_apply {s s' : St} {op : Op} (hI : BooksInv s) (hop : op.isUpsert = false) (h : apply s op = .ok s') : BooksInv s' :=
  apply_cases (motive := fun op s' => op.isUpsert = false → BooksInv s')
    (create := fun hs _ _ _ => hs.books hI) (bond := fun hs _ _ => hs.books hI) (reclaim := fun hs _ _ => hs.books hI)
    (block := fun h _ => endBlockLoop_induct (I := fun σ _ => BooksInv σ) books_endBlockDapp _ hI h)
    (upsert := fun hop => nomatch hop) (xfer := fun _ _ => hI) h hop

theorem books_run (ops : List Op) {s : St} (hI : BooksInv s) (hops : ∀ op ∈ ops, op.isUpsert = false) : BooksInv (run s ops) :=
  List.foldlRecOn ops step hI fun _ hs op hop => step_cases hs fun _ => books_apply hs (hops op hop)

/-- C20 (c): no bootstrapping dApp is above the maximum bond -/
def MaxInv (s : St) : Prop := ∀ d ∈ s.dapps, d.status = 0 → d.bond ≤ (s.P.maxBond : Int) * million

/-- the operations C20 (c) is proved for: creations within the maximum (the code does not check them), no UpsertDapp proposal -/
def Op.withinMax (P : Params) : Op → Bool
  | .create _ _ _ _ _ amt => decide (amt ≤ (P.maxBond : Int) * million)
  | .upsert _ => false
  | _ => true

theorem max_setDapp {s : St} {rec_ : Dapp} (hI : MaxInv s) (hr : rec_.status = 0 → rec_.bond ≤ (s.P.maxBond : Int) * million) :
    ∀ d ∈ setDapp s.dapps rec_, d.status = 0 → d.bond ≤ (s.P.maxBond : Int) * million := by
  intro x hx hst
  rcases mem_of_mem_setDapp hx with rfl | hx'
  · exact hr hst
  · exact hI x hx' hst

theorem BondStep.max {s s' : St} {u : Nat} {δ μ : Int} {r : Dapp} {nb : UBond} (h : BondStep s s' u δ μ r nb)
    (hI : MaxInv s) (hb : δ ≤ 0 ∨ r.bond ≤ (s.P.maxBond : Int) * million) : MaxInv s' := by
  unfold MaxInv
  rw [h.dapps, h.P]
  refine max_setDapp hI (fun hst => ?_)
  rcases hb with hδ | hb
  · rcases h.stored with ⟨_, hb, _⟩ | ⟨d, hf, _, hs, hb, _⟩
    · exact hb ▸ Int.le_trans hδ (Int.mul_nonneg (Int.natCast_nonneg _) (by decide))
    · have := hI d (findDapp_some hf).1 (hs ▸ hst)
      omega
  · exact hb

theorem max_endBlockDapp {s s' : St} {t : Nat} {d : Dapp} (hI : MaxInv s) (h : endBlockDapp s t d = .ok s') : MaxInv s' := by
  rcases endBlockDapp_cases h with rfl | ⟨_, s1, hs1, rfl⟩ | ⟨r, hr⟩
  · exact hI
  · -- refund and removal: fewer records
    intro x hx
    simp only [(refundLoop_some hs1).dapps] at hx
    simp only [(refundLoop_some hs1).P]
    exact hI x (mem_delDapp.mp hx).1
  · -- the record written is not bootstrapping
    unfold MaxInv
    rw [hr.dapps, hr.P]
    exact max_setDapp hI (fun h => absurd h hr.notBootstrap)

theorem max_apply {s s' : St} {op : Op} (hI : MaxInv s) (hop : op.withinMax s.P = true) (h : apply s op = .ok s') : MaxInv s' :=
  apply_cases (motive := fun op s' => op.withinMax s.P = true → MaxInv s')
    (create := fun hs hb _ hop => hs.max hI (Or.inr (hb ▸ of_decide_eq_true hop)))
    (bond := fun hs hb _ => hs.max hI (Or.inr hb))
    (reclaim := fun hs hpos _ => hs.max hI (Or.inl (by omega)))
    (block := fun h _ => endBlockLoop_induct (I := fun σ _ => MaxInv σ) max_endBlockDapp _ hI h)
    (upsert := fun hop => nomatch hop) (xfer := fun _ _ => hI) h hop

theorem max_run (ops : List Op) {s : St} (hI : MaxInv s) (hops : ∀ op ∈ ops, op.withinMax s.P = true) : MaxInv (run s ops) :=
  (List.foldlRecOn (motive := fun σ => MaxInv σ ∧ σ.P = s.P) ops step ⟨hI, rfl⟩ fun σ hσ op hop =>
    ⟨step_cases hσ.1 fun _ => max_apply hσ.1 (hσ.2 ▸ hops op hop), (step_frame σ op).1.trans hσ.2⟩).1

theorem BooksInvL.own {ds : List Dapp} {bs : List UBond} (h : BooksInvL ds bs) {d : Dapp} (hd : d ∈ ds) (hst : d.status = 0) :
    (∀ b ∈ bs.filter (fun b => b.dapp = d.name), b ∈ bs ∧ b.dapp = d.name ∧ b.denom = d.bondDenom) ∧
    bondSum (bs.filter (fun b => b.dapp = d.name)) d.name = d.bond := by
  refine ⟨fun b hb => ?_, ?_⟩
  · obtain ⟨hb1, hb2⟩ := List.mem_filter.mp hb
    have hb2 : b.dapp = d.name := by simpa using hb2
    exact ⟨hb1, hb2, h.denomEq d hd hst b hb1 hb2⟩
  · rw [bondSum_filter_of_keep (fun b _ hbd => by simpa using hbd), ← h.sumEq d hd hst]

/-- what the refund of `d` over its own records does -/
structure OwnRefund (s s1 : St) (d : Dapp) : Prop where
  own : ∀ u, bondAmt s1.bonds d.name u = 0 ∧ s1.ledger d.name u = s.ledger d.name u - bondAmt s.bonds d.name u
  others : ∀ n u, n ≠ d.name → bondAmt s1.bonds n u = bondAmt s.bonds n u ∧ s1.ledger n u = s.ledger n u
  module : s1.bank.bal .l2 d.bondDenom = s.bank.bal .l2 d.bondDenom - d.bond
  users : ∀ u, s1.bank.bal (.user u) d.bondDenom = s.bank.bal (.user u) d.bondDenom + bondAmt s.bonds d.name u
  otherDenoms : ∀ a d', d' ≠ d.bondDenom → s1.bank.bal a d' = s.bank.bal a d'

theorem refundLoop_own_of_books {s s1 : St} {d : Dapp} (hB : BooksInv s) (hd : d ∈ s.dapps) (hst : d.status = 0)
    (h : refundLoop s d.name (s.bonds.filter (fun b => b.dapp = d.name)) = some s1) : OwnRefund s s1 d := by
  unfold BooksInv at hB
  obtain ⟨hown, hsum⟩ := hB.own hd hst
  have hkeys := keys_filter_nodup (fun b => b.dapp = d.name) hB.keysNodup
  have hp := refundLoop_own (den := d.bondDenom) (fun b hb => (hown b hb).2) hkeys h
  have hfr := refundLoop_some h
  -- unique keys: what is paid against a ledger entry is what is recorded under it
  have f1 : ∀ n u, s1.ledger n u = s.ledger n u - bondAmt (s.bonds.filter (fun b => b.dapp = d.name)) n u :=
    fun n u => by rw [hfr.ledger, paid_eq_bondAmt hkeys]
  have hamt : ∀ u, bondAmt (s.bonds.filter (fun b => b.dapp = d.name)) d.name u = bondAmt s.bonds d.name u :=
    fun u => bondAmt_filter_of_keep (fun b _ hbd _ => by simpa using hbd)
  refine { own := fun u => ⟨?_, by rw [f1, hamt]⟩, others := fun n u hn => ⟨?_, ?_⟩, module := hsum ▸ hp.module,
           users := fun u => hamt u ▸ hp.users u, otherDenoms := hp.otherDenoms }
  · rw [hfr.bonds]
    exact bondAmt_delBondsOf_own u (fun b hb hbd => List.mem_filter.mpr ⟨hb, by simpa using hbd⟩)
  · rw [hfr.bonds]
    exact bondAmt_delBondsOf_other u hn
  · rw [f1, bondAmt_eq_zero (fun b hb hk => hn (hk.1.symm.trans (hown b hb).2.1)), Int.sub_zero]

theorem refundLoop_own_succeeds {s : St} {d : Dapp} (hB : BooksInv s) (hd : d ∈ s.dapps) (hst : d.status = 0)
    (hpos : ∀ b ∈ s.bonds, b.dapp = d.name → 0 < b.amt) (hvd : validDenom d.bondDenom = true)
    (hfunds : d.bond ≤ s.bank.bal .l2 d.bondDenom) :
    ∃ s1, refundLoop s d.name (s.bonds.filter (fun b => b.dapp = d.name)) = some s1 := by
  obtain ⟨hown, hsum⟩ := BooksInvL.own hB hd hst
  exact refundLoop_succeeds (name := d.name) (fun b hb => ⟨hpos b (hown b hb).1 (hown b hb).2.1, (hown b hb).2⟩) hvd
    (by rw [hsum]; exact hfunds)

end Sekai.Layer2
