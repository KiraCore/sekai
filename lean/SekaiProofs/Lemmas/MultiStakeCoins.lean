import SekaiProofs.Lemmas.MultiStakeMap
import SekaiProofs.Lemmas.Dec
/-! The three coin lists the staking model computes coin by coin with `NewDecFromInt(n).Mul(c).RoundInt()` (`Dec.roundMul_*`):
`GetPoolCoins` (shares for stake), what a slash leaves of the stake, and the per-denom reward allocation: their step equations,
and what `get` reads in the result in the cases the invariants need (outside the pool's denoms, a pool never slashed, slash
fraction 0, a cap ≤ 1). -/
namespace Sekai.MultiStake
open Sekai AMap

theorem shareAmt_zero (n : Nat) : shareAmt 0 n = n := by
  unfold shareAmt
  rw [Dec.roundMul_eq, Int.sub_zero]; exact Dec.chopRound_mul_P _

theorem natOfInt_natCast (n : Nat) : natOfInt? (n : Int) = some n := by
  unfold natOfInt?
  rw [if_neg (by omega)]; rfl

theorem natOfInt_le {i : Int} {k n : Nat} (h : natOfInt? i = some k) (hi : i ≤ n) : k ≤ n := by
  unfold natOfInt? at h
  split at h
  · cases h
  · cases h; omega

/- The step equations of `poolCoins`, `slashCoins` and `denomAllocation` are stated by hand and closed by the tactic `rfl`:
`unfold`, `simp [poolCoins]` and a term-mode `rfl` each make Lean derive equation lemmas for these definitions, which is slow
(the bodies contain `Dec.roundInt (Dec.mul ..)`). -/
theorem poolCoins_cons (p : Pool) (d : Denom) (n : Nat) (r : Coins) :
    poolCoins p ((d, n) :: r) =
      if d.pool ≠ 0 then none else
      match natOfInt? (shareAmt p.slashed n) with
      | none => none
      | some k =>
        match poolCoins p r with
        | none => none
        | some r' => some ((⟨p.id, d.tok⟩, k) :: r') := by rfl

theorem slashCoins_cons (sl : Dec.D) (d : Denom) (n : Nat) (r : Coins) :
    slashCoins sl ((d, n) :: r) =
      match natOfInt? (shareAmt sl n) with
      | none => none
      | some k =>
        match slashCoins sl r with
        | none => none
        | some r' => some ((d, k) :: r') := by rfl

theorem denomAllocation_cons (cap : Dec.D) (d : Denom) (n : Nat) (r : Coins) :
    denomAllocation cap ((d, n) :: r) =
      match natOfInt? (Dec.roundInt (Dec.mul (Dec.ofInt n) cap)) with
      | none => none
      | some k =>
        match denomAllocation cap r with
        | none => none
        | some r' => some ((d, k) :: r') := by rfl

theorem poolCoins_cons_some {p : Pool} {d : Denom} {n : Nat} {r pc : Coins} (h : poolCoins p ((d, n) :: r) = some pc) :
    d.pool = 0 ∧ ∃ k r', natOfInt? (shareAmt p.slashed n) = some k ∧ poolCoins p r = some r' ∧
      pc = (⟨p.id, d.tok⟩, k) :: r' := by
  rw [poolCoins_cons] at h
  split at h
  · cases h
  · rename_i hd
    split at h
    · cases h
    · rename_i k hk
      split at h
      · cases h
      · rename_i r' hr
        cases h
        exact ⟨Decidable.not_not.mp hd, k, r', hk, hr, rfl⟩

theorem get_poolCoins_other {p : Pool} {amts pc : Coins} (h : poolCoins p amts = some pc) (d : Denom)
    (hd : d.pool ≠ p.id) : get pc d = 0 := by
  induction amts generalizing pc with
  | nil => cases h; rfl
  | cons x r ih =>
    obtain ⟨_, k, r', _, hr, rfl⟩ := poolCoins_cons_some h
    have : ¬ ((⟨p.id, x.1.tok⟩ : Denom) = d) := fun e => hd (e ▸ rfl)
    rw [get_cons, if_neg this, ih hr]

theorem get_poolCoins_par {p : Pool} {amts pc : Coins} (h : poolCoins p amts = some pc) (hs : p.slashed = 0)
    (tok : Nat) : get pc ⟨p.id, tok⟩ = get amts ⟨0, tok⟩ := by
  induction amts generalizing pc with
  | nil => cases h; rfl
  | cons x r ih =>
    obtain ⟨⟨dp, dt⟩, n0⟩ := x
    obtain ⟨hd0, k, r', hk, hr, rfl⟩ := poolCoins_cons_some h
    rw [hs, shareAmt_zero, natOfInt_natCast] at hk
    cases hk
    cases hd0
    rw [get_cons, get_cons, ih hr]
    by_cases ht : dt = tok
    · subst ht; rw [if_pos rfl, if_pos rfl]
    · rw [if_neg (fun e => ht (congrArg Denom.tok e)), if_neg (fun e => ht (congrArg Denom.tok e))]

theorem get_slashCoins_zero {sl : Dec.D} {c c' : Coins} (hsl : sl = 0) (h : slashCoins sl c = some c') (d : Denom) :
    get c' d = get c d := by
  subst hsl
  induction c generalizing c' with
  | nil => cases h; rfl
  | cons x r ih =>
    obtain ⟨d0, n0⟩ := x
    rw [slashCoins_cons, shareAmt_zero, natOfInt_natCast] at h
    dsimp only at h
    split at h
    · cases h
    · rename_i r' hr
      cases h
      rw [get_cons, get_cons, ih hr]

theorem denomAllocation_le {cap : Dec.D} {rewards alloc : Coins} (h1 : cap ≤ Dec.one)
    (h : denomAllocation cap rewards = some alloc) (d : Denom) : get alloc d ≤ get rewards d := by
  induction rewards generalizing alloc with
  | nil => cases h; exact Nat.le_refl _
  | cons x r ih =>
    obtain ⟨d0, n0⟩ := x
    rw [denomAllocation_cons] at h
    split at h
    · cases h
    · rename_i k hk
      split at h
      · cases h
      · rename_i r' hr
        cases h
        have hkn : k ≤ n0 := natOfInt_le hk (Dec.roundMul_le (Int.natCast_nonneg n0) h1)
        have := ih hr
        simp only [get_cons]
        split <;> omega

/-- a fact about the constants of `Sekai.Dec`; nothing in this family uses it -/
theorem half_lt_P : Dec.half < Dec.P := by decide

end Sekai.MultiStake
