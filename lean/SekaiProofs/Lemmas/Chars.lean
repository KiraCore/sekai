import Sekai.Model.App
import Sekai.Gen.App
import Sekai.Gen.BankFlows
import Sekai.Gen.Keys
/-! String tables read as character lists, for the table obligations that look into strings (`App.recognised`, `App.siteModule`,
`startsWith`, `endsWith`) and for the name comparisons (`App.once`, `==`) that stand in the same statement over a table so read (which
obligation is evaluated how: DESIGN.md §A.8): `rw` with the table's reading
`table = cs.map String.ofList` (end of this file), `simp only` with the lemmas below that turn the string functions of the statement
into list functions, then `decide +kernel`. A literal is `String.ofList` of its characters for the unifier only:
`Reads.eq (by repeat constructor)` makes it spell every literal out. The proof term is as deep as the table is long: beyond some 250
rows the default recursion depth does not carry it (read such a table in two halves). -/
namespace Sekai.Chars

inductive Reads : List String → List (List Char) → Prop
  | nil : Reads [] []
  | cons (c : List Char) {l cs} : Reads l cs → Reads (String.ofList c :: l) (c :: cs)

theorem Reads.eq {l cs} (h : Reads l cs) : l = cs.map String.ofList := by
  induction h with
  | nil => rfl
  | cons c _ ih => rw [ih]; rfl

inductive Reads2 : List (String × String) → List (List Char × List Char) → Prop
  | nil : Reads2 [] []
  | cons (a b : List Char) {l cs} : Reads2 l cs → Reads2 ((String.ofList a, String.ofList b) :: l) ((a, b) :: cs)

theorem Reads2.eq {l cs} (h : Reads2 l cs) : l = cs.map fun r => (String.ofList r.1, String.ofList r.2) := by
  induction h with
  | nil => rfl
  | cons a b _ ih => rw [ih]; rfl

/-- a row of the four-column tables (file, function, callee, arguments) -/
abbrev Row := List Char × List Char × List Char × List Char

def Row.str (r : Row) : String × String × String × String :=
  (String.ofList r.1, String.ofList r.2.1, String.ofList r.2.2.1, String.ofList r.2.2.2)

inductive Reads4 : List (String × String × String × String) → List Row → Prop
  | nil : Reads4 [] []
  | cons (a b c d : List Char) {l cs} : Reads4 l cs →
      Reads4 ((String.ofList a, String.ofList b, String.ofList c, String.ofList d) :: l) ((a, b, c, d) :: cs)

theorem Reads4.eq {l cs} (h : Reads4 l cs) : l = cs.map Row.str := by
  induction h with
  | nil => rfl
  | cons a b c d _ ih => rw [ih]; rfl

theorem startsWith_ofList (s : List Char) (p : String) : (String.ofList s).startsWith p = p.toList.isPrefixOf s := by
  rw [Bool.eq_iff_iff]; simp [String.startsWith_string_iff, List.isPrefixOf_iff_prefix]

theorem endsWith_ofList (s : List Char) (p : String) : (String.ofList s).endsWith p = p.toList.isSuffixOf s := by
  rw [Bool.eq_iff_iff]; simp [← String.endsWith_toSlice, String.Slice.endsWith_string_iff, List.isSuffixOf_iff_suffix]

theorem beq_ofList (a b : List Char) : (String.ofList a == String.ofList b) = (a == b) := by
  rw [Bool.eq_iff_iff]; simp [String.ofList_inj]

theorem ofList_eq_iff (s : List Char) (t : String) : String.ofList s = t ↔ s = t.toList := by
  rw [← String.ofList_inj, String.ofList_toList]

theorem recognised_map_ofList (cs : List (List Char)) :
    App.recognised (cs.map String.ofList) = cs.all fun c => !"unrecognised".toList.isPrefixOf c := by
  simp only [App.recognised, List.all_map, Function.comp_def, startsWith_ofList]

theorem once_map_ofList (cs : List (List Char)) (a : String) :
    App.once (cs.map String.ofList) a = ((cs.filter (· = a.toList)).length == 1) := by
  simp only [App.once, App.occ, List.filter_map, List.length_map, Function.comp_def, ofList_eq_iff]

theorem siteModule_ofList (file arg : List Char) :
    App.siteModule (String.ofList file) (String.ofList arg) =
      if App.untilBar arg = "types.ModuleName".toList then
        match file with
        | 'x' :: '/' :: rest => String.ofList (rest.takeWhile (· ≠ '/')) ++ "types.ModuleName"
        | _ => String.ofList (App.untilBar arg)
      else String.ofList (App.untilBar arg) := by
  simp only [App.siteModule, String.toList_ofList, ofList_eq_iff]
  rfl

/-! The regenerated tables whose strings the property files look into, read. Each is a `def` of a subtype, not a theorem: `.1`,
the table of character lists, is data that `decide +kernel` evaluates later, `.2` is the equation to rewrite with. The `_` is
written nowhere: `repeat constructor` builds the derivation literal by literal and the unifier fills the hole while it does.
Three inductives (`Reads`, `Reads2`, `Reads4`) and not one over a row function, because the unifier must meet `String.ofList ?c`
itself at each literal. -/

def flows : { cs // Gen.BankFlows.flows = List.map Row.str cs } := ⟨_, Reads4.eq (by repeat constructor)⟩
def anteChain : { cs // Gen.App.anteChain = List.map String.ofList cs } := ⟨_, Reads.eq (by repeat constructor)⟩
def beginOrder : { cs // Gen.App.beginOrder = List.map String.ofList cs } := ⟨_, Reads.eq (by repeat constructor)⟩
def endOrder : { cs // Gen.App.endOrder = List.map String.ofList cs } := ⟨_, Reads.eq (by repeat constructor)⟩
def initOrder : { cs // Gen.App.initOrder = List.map String.ofList cs } := ⟨_, Reads.eq (by repeat constructor)⟩
def proposalHandlers : { cs // Gen.App.proposalHandlers = List.map String.ofList cs } := ⟨_, Reads.eq (by repeat constructor)⟩
def moduleAccounts : { cs // Gen.App.maccPerms.map (·.1) = List.map String.ofList cs } := ⟨_, Reads.eq (by repeat constructor)⟩
def custodyKeys : { cs // Gen.Keys.custody = List.map (fun r : List Char × List Char => (String.ofList r.1, String.ofList r.2)) cs } :=
  ⟨_, Reads2.eq (by repeat constructor)⟩

theorem mintBurn_eq : Gen.BankFlows.mintBurn =
    (flows.1.filter fun r => "MintCoins".toList.isSuffixOf r.2.2.1 || "BurnCoins".toList.isSuffixOf r.2.2.1).map Row.str := by
  conv => lhs; rw [Gen.BankFlows.mintBurn, flows.2]
  simp only [List.filter_map, Function.comp_def, Row.str, endsWith_ofList]

end Sekai.Chars
