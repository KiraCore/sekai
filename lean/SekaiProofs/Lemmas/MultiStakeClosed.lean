import SekaiProofs.Lemmas.MultiStakeMap
import SekaiProofs.Lemmas.MultiStakeOps
import SekaiProofs.Lemmas.MultiStakeRun
/-! Predicates on the state that every op keeps. `Closed P`: `P` is kept by the building blocks of the reward path, so that the
autocompound loop, the pool split and the distributor are walked through once, for every such predicate. `Closed.step`: a
closed predicate that reads only bank, pools, pool counter and undelegations, and that five further ops keep, is kept by every
`Op` (the run lemmas stand with the invariants). -/
namespace Sekai.MultiStake
open Sekai AMap

/-- The seven fields `congr` fixes are the union of what the predicates used with `Closed` read. `Inv` and `Par` read the first
four only (bank, pools, pool counter, undelegations): that stronger fact is the extra hypothesis `hw` of `Closed.beginBlock` and
`Closed.step`, which change height and time. The predicate of `allocate_frame` reads the last three (vote records, snapshot
window, height), has no `hw`, and is pushed through `Closed.allocate` only. -/
structure Closed (P : St → Prop) : Prop where
  congr : ∀ {s s' : St}, P s → s'.bank = s.bank → s'.pools = s.pools → s'.lastPoolId = s.lastPoolId →
    s'.undels = s.undels → s'.votes = s.votes → s'.snapPeriod = s.snapPeriod → s'.height = s.height → P s'
  bank : ∀ {s : St} {b' : Bank}, P s → (∀ d : Denom, d.pool ≠ 0 → get b'.supply d = get s.bank.supply d) →
    (∀ d : Denom, s.bank.balance .ms d ≤ b'.balance .ms d) → P { s with bank := b' }
  delegate : ∀ {s s' : St} {a v : Nat} {c : Coins}, P s → delegate s a v c = some s' → P s'

theorem Closed.send {P : St → Prop} (hc : Closed P) {s : St} {b' : Bank} {src dst : Acct} {c : Coins} (h : P s)
    (hb : s.bank.send src dst c = some b') (hsrc : src ≠ .ms) : P { s with bank := b' } := by
  apply hc.bank h
  · intro d _; rw [Bank.send_supply hb]
  · intro d
    have := Bank.send_bal hb .ms d
    simp only [hsrc, if_false] at this
    omega

theorem Closed.mintNative {P : St → Prop} (hc : Closed P) {s : St} {a : Acct} {n : Nat} (h : P s) :
    P { s with bank := s.bank.mint a [(ukex, n)] } := by
  apply hc.bank h
  · intro d hd
    rw [Bank.mint_supply, get_ukex_of_share hd]; rfl
  · intro d
    rw [Bank.mint_bal]; omega

theorem Closed.autocompound {P : St → Prop} (hc : Closed P) {val : Nat} {delegs : List Nat} {s s' : St} (h : P s)
    (ha : autocompound val delegs s = some s') : P s' := by
  induction delegs generalizing s with
  | nil => cases ha; exact h
  | cons a rest ih =>
    obtain ⟨rws, hr⟩ := autocompound_cons ha
    have hs1 : P { s with rewards := rws } := hc.congr h rfl rfl rfl rfl rfl rfl rfl  -- differs in `rewards`
    rcases hr with hr | ⟨auto, b, s2, hb, hd, hr⟩
    · exact ih hs1 hr
    · -- fee collector → delegator, then an ordinary `delegate`
      refine ih ?_ hr
      exact hc.congr (hc.delegate (hc.send hs1 hb (by simp)) hd) rfl rfl rfl rfl rfl rfl rfl  -- differs in `compound`

theorem Closed.increasePoolRewards {P : St → Prop} (hc : Closed P) {s s' : St} {p : Pool} {rw : Coins} (h : P s)
    (hi : increasePoolRewards s p rw = some s') : P s' := by
  obtain ⟨_, _, _, _, ha⟩ := increasePoolRewards_some hi
  refine hc.autocompound ?_ ha
  exact hc.congr h rfl rfl rfl rfl rfl rfl rfl  -- differs in `delegators` and `rewards`

theorem Closed.mintInflation {P : St → Prop} (hc : Closed P) {s s0 : St} {infl : Nat} (h : P s)
    (hm : mintInflation s infl = some s0) : P s0 := by
  rcases mintInflation_some hm with rfl | ⟨b, hb, rfl⟩
  · exact h
  · have h1 : P { s with bank := s.bank.mint .mint [(ukex, infl)] } := hc.mintNative h
    exact hc.congr (hc.send h1 hb (by simp)) rfl rfl rfl rfl rfl rfl rfl  -- the same state, written as one update

theorem Closed.poolPart {P : St → Prop} (hc : Closed P) {s0 s1 : St} {p : Pool} {pw infl : Nat}
    {valR poolR valR' : Coins} (h : P s0) (hp : poolPart s0 p pw infl valR poolR = some (valR', s1)) : P s1 := by
  obtain ⟨_, _, _, rfl | hi⟩ := poolPart_some hp
  · exact h
  · exact hc.increasePoolRewards h hi

theorem Closed.payProposer {P : St → Prop} (hc : Closed P) {s0 s3 : St} {prev pw infl : Nat} {fees : Coins}
    (h : P s0) (hp : payProposer s0 prev pw infl fees = some s3) : P s3 := by
  obtain ⟨valR', s1, h1, h3⟩ := payProposer_some hp
  have hs1 : P s1 := by
    rcases h1 with rfl | ⟨_, _, _, _, hpp⟩
    · exact h
    · exact hc.poolPart h hpp
  rcases h3 with rfl | ⟨b, hb, rfl⟩
  · exact hs1
  · exact hc.send hs1 hb (by simp)

theorem Closed.allocate {P : St → Prop} (hc : Closed P) {s s' : St} {prev : Nat} (h : P s)
    (ha : allocate s prev = some s') : P s' := by
  rcases allocate_some ha with rfl | ⟨infl, s0, s3, fees, hs0, hs3, rfl⟩
  · exact h
  · exact hc.congr (hc.payProposer (hc.mintInflation h hs0) hs3) rfl rfl rfl rfl rfl rfl rfl  -- differs in `treasury`

theorem Closed.beginBlock {P : St → Prop} (hc : Closed P)
    (hw : ∀ {s s' : St}, P s → s'.bank = s.bank → s'.pools = s.pools → s'.lastPoolId = s.lastPoolId →
      s'.undels = s.undels → P s')
    {s s' : St} {h t proposer : Nat} {commit : List Nat}
    (hi : P s) (hb : beginBlock s h t proposer commit = some s') : P s' := by
  obtain ⟨s1, hs1, rfl⟩ := beginBlock_some hb
  have h0 : P { s with height := h, now := t } := hw hi rfl rfl rfl rfl
  have h1 : P s1 := by
    rcases hs1 with rfl | ⟨prev, ha⟩
    · exact h0
    · exact hc.allocate h0 ha
  exact hw h1 rfl rfl rfl rfl

/-- `hw`: `P` reads only bank, pools, pool counter and undelegations. The five ops asked for are those outside the reward path that
rewrite pool records or pay out of the module account; the others are sends from other accounts, the reward path, or (by `hw`)
changes of fields the predicate does not read. -/
theorem Closed.step {P : St → Prop} (hc : Closed P)
    (hw : ∀ {s s' : St}, P s → s'.bank = s.bank → s'.pools = s.pools → s'.lastPoolId = s.lastPoolId →
      s'.undels = s.undels → P s')
    (hup : ∀ {s s' : St} {a v : Nat} {e : Bool} {c : Dec.D}, P s → upsertPool s a v e c = some s' → P s')
    (hun : ∀ {s s' : St} {a v : Nat} {c : Coins}, P s → undelegate s a v c = some s' → P s')
    (hsl : ∀ {s s' : St} {v : Nat} {sl : Dec.D}, P s → slash s v sl = some s' → P s')
    (hcu : ∀ {s s' : St} {a id : Nat}, P s → claimUndel s a id = some s' → P s')
    (hcm : ∀ {s s' : St} {a : Nat}, P s → claimMatured s a = some s' → P s')
    {s : St} (op : Op) (h : P s) : P (step s op) := by
  cases op with
  | upsert a v e c => exact onSuccess_cases h fun _ hr => hup h hr
  | delegate a v c => exact onSuccess_cases h fun _ hr => hc.delegate h hr
  | undelegate a v c => exact onSuccess_cases h fun _ hr => hun h hr
  | slash v sl => exact onSuccess_cases h fun _ hr => hsl h hr
  | claimUndel a id => exact onSuccess_cases h fun _ hr => hcu h hr
  | claimMatured a => exact onSuccess_cases h fun _ hr => hcm h hr
  | claimRewards a =>
    refine onSuccess_cases h fun s' hr => ?_
    obtain ⟨b, hb, rfl⟩ := claimRewards_some hr
    exact hw (hc.send h hb (by simp)) rfl rfl rfl rfl
  | transfer a b c =>
    refine onSuccess_cases h fun s' hr => ?_
    obtain ⟨b, hb, rfl⟩ := transfer_some hr
    exact hc.send h hb (by simp)
  | payFee a c =>
    refine onSuccess_cases h fun s' hr => ?_
    obtain ⟨b, hb, rfl⟩ := payFee_some hr
    exact hc.send h hb (by simp)
  | setCompound a all ds => exact hw h rfl rfl rfl rfl
  | register a =>
    refine onSuccess_cases h fun s' hr => ?_
    obtain ⟨_, rfl⟩ := registerDelegator_frame hr
    exact hw h rfl rfl rfl rfl
  | poolRewards v rw =>
    -- `increasePoolRewards` alone would be read as the lemma `Closed.increasePoolRewards` inside this declaration
    show P (match findPool s v with
      | some p => onSuccess s (MultiStake.increasePoolRewards s p rw)
      | none => s)
    split
    · exact onSuccess_cases h fun _ hr => hc.increasePoolRewards h hr
    · exact h
  | allocate prev => exact onSuccess_cases h fun _ hr => hc.allocate h hr
  | beginBlock hh t p c => exact onSuccess_cases h fun _ hr => hc.beginBlock hw h hr
  | endBlock => exact hw h rfl rfl rfl rfl
  | env f hb hp hl hu => exact hw h (hb s) (hp s) (hl s) (hu s)

end Sekai.MultiStake
