import SekaiProofs.Lemmas.MultiStakeInv
/-! The "never slashed ⇒ shares = stake" invariant `Par`, kept by every op; `Inv2 = Inv ∧ Par`, the hypothesis of the
pro-rata clause (b) of C10 (its other run theorems need `Inv` alone), and the states it starts from (`Inv2.of_no_pools`). -/
namespace Sekai.MultiStake
open Sekai AMap

/-- shares at par: a pool that was never slashed records as many shares of a token as stake of it -/
def Par (s : St) : Prop :=
  ∀ p ∈ s.pools, p.slashed = 0 → ∀ tok : Nat, get p.shares ⟨p.id, tok⟩ = get p.stake ⟨0, tok⟩

theorem Par.congr {s s' : St} (h : Par s) (hp : s'.pools = s.pools) : Par s' := by
  unfold Par; rw [hp]; exact h

theorem Par.setPool {s s' : St} {p' : Pool} (h : Par s) (hp : s'.pools = setPool s.pools p')
    (hp' : p'.slashed = 0 → ∀ tok : Nat, get p'.shares ⟨p'.id, tok⟩ = get p'.stake ⟨0, tok⟩) : Par s' := by
  intro q hq hqs tok
  rcases mem_setPool_sub (hp ▸ hq) with rfl | hq'
  · exact hp' hqs tok
  · exact h q hq' hqs tok

theorem par_upsertPool {s s' : St} {sender val : Nat} {en : Bool} {c : Dec.D} (h : Par s)
    (hu : upsertPool s sender val en c = some s') : Par s' := by
  rcases upsertPool_some hu with ⟨p, hp, rfl⟩ | ⟨_, rfl⟩
  · exact h.setPool rfl (h p (findPool_mem hp).1)
  · exact h.setPool rfl (fun _ _ => rfl)

theorem par_delegate {s s' : St} {who val : Nat} {amts : Coins} (h : Par s)
    (hd : delegate s who val amts = some s') : Par s' := by
  obtain ⟨p, pc, b1, b3, dl, g, rfl⟩ := delegate_some hd
  refine h.setPool rfl fun hs tok => ?_
  show get (addAll p.shares pc) ⟨p.id, tok⟩ = get (addAll p.stake amts) ⟨0, tok⟩
  rw [get_addAll, get_addAll, h p (findPool_mem g.pool).1 hs tok, get_poolCoins_par g.coins hs tok]

theorem par_undelegate {s s' : St} {who val : Nat} {amts : Coins} (h : Par s)
    (hu : undelegate s who val amts = some s') : Par s' := by
  obtain ⟨p, pc, b1, b2, stake', shares', g, rfl⟩ := undelegate_some hu
  refine h.setPool rfl fun hs tok => ?_
  show get shares' ⟨p.id, tok⟩ = get stake' ⟨0, tok⟩
  have h1 := get_subAll g.shares ⟨p.id, tok⟩
  have h2 := get_subAll g.stake ⟨0, tok⟩
  have h3 := h p (findPool_mem g.pool).1 hs tok
  have h4 := get_poolCoins_par g.coins hs tok
  omega

theorem par_slash {s s' : St} {val : Nat} {sl : Dec.D} (h : Par s) (hs : slash s val sl = some s') : Par s' := by
  rcases slash_some hs with ⟨_, rfl⟩ | ⟨p, stake', slashed, b1, b2, g, rfl⟩
  · exact h
  refine h.setPool rfl fun hsl _ => ?_
  -- a successful slash never has fraction 0: it would take nothing off the stake and burn the zero coin
  exfalso
  have h1 := get_slashCoins_zero hsl g.left ukex
  have h2 := get_subAll g.taken ukex
  have h3 := g.ukex_ne
  rw [get_nz] at h1
  omega

theorem par_closed : Closed Par :=
  { congr := fun h _ hp _ _ _ _ _ => h.congr hp, bank := fun h _ _ => h, delegate := par_delegate }

theorem par_step {s : St} (op : Op) (h : Par s) : Par (step s op) := by
  refine par_closed.step (fun h _ hp _ _ => h.congr hp) par_upsertPool par_undelegate par_slash ?_ ?_ op h
  · intro s s' a id h hr
    obtain ⟨_, _, _, rfl⟩ := claimUndel_some hr; exact h
  · intro s s' a h hr
    obtain ⟨_, _, _, rfl⟩ := claimMatured_some hr; exact h

theorem par_run {s : St} (ops : List Op) (h : Par s) : Par (run s ops) :=
  List.foldlRecOn ops step h fun _ hs op _ => par_step op hs

/-- the hypothesis of the pro-rata clause (b) of C10: the state invariant and shares at par -/
def Inv2 (s : St) : Prop := Inv s ∧ Par s

theorem Inv2.of_no_pools {s : St} (hp : s.pools = []) (hu : s.undels = [])
    (hs : ∀ d : Denom, d.pool ≠ 0 → get s.bank.supply d = 0) : Inv2 s := by
  have hno : ∀ {p : Pool}, p ∈ s.pools → False := fun h => by rw [hp] at h; cases h
  refine ⟨{ share := fun _ h => (hno h).elim, ids := fun _ h => (hno h).elim, distinct := ?_,
            fresh := fun d hd => hs d (by omega), solv := fun d => ?_ }, fun _ h => (hno h).elim⟩
  · rw [hp]; exact List.Pairwise.nil
  · rw [hp, hu]; exact Nat.zero_le _

end Sekai.MultiStake
