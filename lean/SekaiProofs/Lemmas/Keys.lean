import Sekai.Model.Keys
/-! What the key-space obligations mean and how they are checked. Meaning: keys built on prefixes that are apart differ, whatever
follows the prefix (`keys_of_apart_prefixes_differ`); with an empty clash list — the second half of `disjoint`, by its definition —
differently named prefixes of one module are apart (`apart_of_no_clash`); together `keys_of_different_kinds_differ`. Check:
`disjoint_of_pairwise_apart`, on the byte lists alone. -/
namespace Sekai.Keys

theorem keys_of_apart_prefixes_differ {α : Type} [BEq α] [LawfulBEq α] (p q x y : List α) (h : apart p q = true) :
    p ++ x ≠ q ++ y := by
  intro e
  simp only [apart, Bool.and_eq_true, Bool.not_eq_true'] at h
  rcases List.append_eq_append_iff.mp e with ⟨a, hq, _⟩ | ⟨c, hp, _⟩
  · have : p.isPrefixOf q = true := by rw [hq]; exact List.isPrefixOf_iff_prefix.mpr (List.prefix_append p a)
    simp [this] at h
  · have : q.isPrefixOf p = true := by rw [hp]; exact List.isPrefixOf_iff_prefix.mpr (List.prefix_append q c)
    simp [this] at h

theorem apart_of_no_clash (rows : List (String × List Nat)) (h : clashes rows = [])
    (a b : String × List Nat) (ha : a ∈ rows) (hb : b ∈ rows) (hn : a.1 ≠ b.1) : apart a.2 b.2 = true := by
  have key : ∀ a b : String × List Nat, a ∈ rows → b ∈ rows → a.1 ≠ b.1 → a.2.isPrefixOf b.2 = false := by
    intro a b ha hb hn
    cases hp : a.2.isPrefixOf b.2 with
    | false => rfl
    | true =>
      have : (a.1, b.1) ∈ clashes rows := by
        unfold clashes
        refine List.mem_flatMap.mpr ⟨a, ha, List.mem_map.mpr ⟨b, List.mem_filter.mpr ⟨hb, ?_⟩, rfl⟩⟩
        simp [hp, hn]
      rw [h] at this
      cases this
  simp [apart, key a b ha hb hn, key b a hb ha (Ne.symm hn)]

theorem keys_of_different_kinds_differ (rows : List (String × List Nat)) (h : clashes rows = [])
    (a b : String × List Nat) (ha : a ∈ rows) (hb : b ∈ rows) (hn : a.1 ≠ b.1) (x y : List Nat) :
    a.2 ++ x ≠ b.2 ++ y :=
  keys_of_apart_prefixes_differ a.2 b.2 x y (apart_of_no_clash rows h a b ha hb hn)

/-! Decided on the byte lists (`Nat` comparisons, cheap for the kernel), not on the key names (strings, dear). Sufficient, not
necessary: a row listed twice fails it without being a clash. -/

theorem apart_comm {α : Type} [BEq α] (p q : List α) : apart p q = apart q p := Bool.and_comm ..

theorem clashes_eq_nil_of_pairwise_apart (rows : List (String × List Nat))
    (h : rows.Pairwise fun a b => apart a.2 b.2 = true) : clashes rows = [] := by
  have key : ∀ a ∈ rows, ∀ b ∈ rows, a.1 = b.1 ∨ apart a.2 b.2 = true :=
    List.Pairwise.forall_of_forall_of_flip (fun _ _ => Or.inl rfl) (h.imp Or.inr)
      (h.imp fun {a b} hab => Or.inr ((apart_comm b.2 a.2).trans hab))
  simp only [clashes, List.flatMap_eq_nil_iff, List.map_eq_nil_iff, List.filter_eq_nil_iff]
  intro a ha b hb hc
  simp only [Bool.and_eq_true, bne_iff_ne] at hc
  rcases key a ha b hb with e | e
  · exact hc.1 e
  · simp [apart, hc.2] at e

theorem disjoint_of_pairwise_apart {stores : List (String × List (String × List Nat))} {m : String}
    (h : rowsOf stores m ≠ [] ∧ (rowsOf stores m).Pairwise fun a b => apart a.2 b.2 = true) :
    disjoint stores m = true := by
  simp [disjoint, clashes_eq_nil_of_pairwise_apart _ h.2, h.1]

end Sekai.Keys
