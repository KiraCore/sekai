import Sekai.Model.Distr
/-! Inversions (`*_some`) for the functions of `Sekai.Model.MultiStake` / `Distr` that can fail: the messages, the pieces of the
reward path (one round of its loop: `autocompound_cons`), the block hook, the token registry, the layer2 burn. The result
as a structure update of the argument, and those guards and intermediate results that the invariants and C10 read (each
structure and each lemma of the reward path says what it does not keep); `*_frame` where only "nothing but the delegator set
changes" is kept. (The idiom that dismisses the failing branches: DESIGN.md §A.8.) -/
namespace Sekai.MultiStake
open Sekai AMap

theorem pushout_frame {s s1 : St} {p : Pool} {who : Nat} {amts : Coins} (h : pushout s p who amts = some s1) :
    ∃ dl, s1 = { s with delegators := dl } := by
  revert h
  fun_cases pushout s p who amts <;> intro h <;> cases h <;> exact ⟨_, rfl⟩

/-- What `Inv`, `Par` and C10 read of a successful `Delegate` (`delegate_some`). Not kept: that the coins are valid and every
denom is stakeable with its minimum (`validCoins`, `stakeOk`), that the validator is active, and whether the delegator was
registered already or pushed another one out. -/
structure Delegated (s : St) (who val : Nat) (amts : Coins) (p : Pool) (pc : Coins) (b1 b3 : Bank) : Prop where
  pool : findPool s val = some p
  unslashed : ¬ p.slashed > 0
  coins : poolCoins p amts = some pc
  paid : s.bank.send (.user who) .ms amts = some b1
  issued : (b1.mint .mint pc).send .mint (.user who) pc = some b3

theorem delegate_some {s s' : St} {who val : Nat} {amts : Coins} (h : delegate s who val amts = some s') :
    ∃ (p : Pool) (pc : Coins) (b1 b3 : Bank) (dl : List (Nat × Nat)), Delegated s who val amts p pc b1 b3 ∧
      s' = { s with bank := b3,
                    pools := setPool s.pools { p with stake := addAll p.stake amts, shares := addAll p.shares pc },
                    delegators := dl } := by
  revert h
  fun_cases delegate s who val amts <;> try (intro h; cases h; done)
  -- pool found, not slashed; (push-out); coins to the module; shares minted and passed on
  next p hp hsl s1 hs1 b1 hb1 _ pc hpc b3 hb3 =>
    intro h; cases h
    -- the push-out before the transfer changes the delegator set only
    obtain ⟨dl, rfl⟩ : ∃ dl, s1 = { s with delegators := dl } := by
      split at hs1
      · cases hs1; exact ⟨_, rfl⟩  -- already a delegator of the pool
      · exact pushout_frame hs1
    exact ⟨p, pc, b1, b3, _, { pool := hp, unslashed := hsl, coins := hpc, paid := hb1, issued := hb3 }, rfl⟩

/-- What `Inv`, `Par` and C10 read of a successful `Undelegate` (`undelegate_some`). Not kept: `validCoins amts` and
`isAllGTE p.stake amts` (`stake` says more). -/
structure Undelegated (s : St) (who val : Nat) (amts : Coins) (p : Pool) (pc : Coins) (b1 b2 : Bank)
    (stake' shares' : Coins) : Prop where
  pool : findPool s val = some p
  coins : poolCoins p amts = some pc
  sent : s.bank.send (.user who) .ms pc = some b1
  burnt : b1.burn .ms pc = some b2
  stake : subAll? p.stake amts = some stake'
  shares : subAll? p.shares pc = some shares'

theorem undelegate_some {s s' : St} {who val : Nat} {amts : Coins} (h : undelegate s who val amts = some s') :
    ∃ (p : Pool) (pc : Coins) (b1 b2 : Bank) (stake' shares' : Coins), Undelegated s who val amts p pc b1 b2 stake' shares' ∧
      s' = { s with bank := b2,
                    pools := setPool s.pools { p with stake := stake', shares := shares' },
                    lastUndelId := s.lastUndelId + 1,
                    undels := s.undels ++ [{ id := s.lastUndelId + 1, owner := who, val := val,
                                             expiry := s.now + s.props.unstakingPeriod, amount := amts }],
                    delegators := removeDelegator s.delegators p.id who } := by
  revert h
  fun_cases undelegate s who val amts <;> try (intro h; cases h; done)
  -- pool found; shares to the module and burnt; stake and share totals reduced
  next p hp pc hpc b1 hb1 b2 hb2 _ stake' hst shares' hsh _ =>
    intro h; cases h
    exact ⟨p, pc, b1, b2, stake', shares',
      { pool := hp, coins := hpc, sent := hb1, burnt := hb2, stake := hst, shares := hsh }, rfl⟩

/-- Every guard of a successful `SlashStakingPool` on a validator that has a pool (`slash_some`) -/
structure Slashed (s : St) (val : Nat) (sl : Dec.D) (p : Pool) (stake' slashed : Coins) (b1 b2 : Bank) : Prop where
  pool : findPool s val = some p
  left : slashCoins sl (nz p.stake) = some stake'
  taken : subAll? p.stake stake' = some slashed
  ukex_ne : get slashed ukex ≠ 0
  burnt : s.bank.burn .ms [(ukex, get slashed ukex)] = some b1
  sent : b1.send .ms .fc ((nz slashed).filter (fun dn => dn.1 ≠ ukex)) = some b2

theorem slash_some {s s' : St} {val : Nat} {sl : Dec.D} (h : slash s val sl = some s') :
    (findPool s val = none ∧ s' = s) ∨
    ∃ (p : Pool) (stake' slashed : Coins) (b1 b2 : Bank), Slashed s val sl p stake' slashed b1 b2 ∧
      s' = { s with bank := b2,
                    treasury := addAll s.treasury ((nz slashed).filter (fun dn => dn.1 ≠ ukex)),
                    pools := setPool s.pools { p with slashed := sl, enabled := false, stake := stake' } } := by
  revert h
  fun_cases slash s val sl <;> try (intro h; cases h; done)
  next hp => intro h; cases h; exact Or.inl ⟨hp, rfl⟩  -- no pool: nothing happens
  -- pool found; the ukex part burnt (not zero), the rest to the fee collector
  next p hp stake' hst slashed hsl _ hne b1 hb1 _ b2 hb2 =>
    intro h; cases h
    exact Or.inr ⟨p, stake', slashed, b1, b2,
      { pool := hp, left := hst, taken := hsl, ukex_ne := hne, burnt := hb1, sent := hb2 }, rfl⟩

/-- Every guard of a successful `ClaimUndelegation` (`claimUndel_some`) -/
structure UndelClaimed (s : St) (who id : Nat) (u : Undel) (b : Bank) : Prop where
  found : s.undels.find? (fun u => u.id == id) = some u
  owner : u.owner = who
  matured : u.expiry ≤ s.now
  paid : s.bank.send .ms (.user who) u.amount = some b

theorem claimUndel_some {s s' : St} {who id : Nat} (h : claimUndel s who id = some s') :
    ∃ (u : Undel) (b : Bank), UndelClaimed s who id u b ∧
      s' = { s with bank := b, undels := s.undels.filter (fun u => u.id != id) } := by
  revert h
  fun_cases claimUndel s who id <;> try (intro h; cases h; done)
  next u hu ho ht b hb =>  -- record found, sender is its owner, expiry reached, the module pays
    intro h; cases h
    exact ⟨u, b, { found := hu, owner := Decidable.not_not.mp ho, matured := Nat.le_of_not_lt ht, paid := hb }, rfl⟩

theorem upsertPool_some {s s' : St} {sender val : Nat} {en : Bool} {c : Dec.D} (h : upsertPool s sender val en c = some s') :
    (∃ p, findPool s val = some p ∧ s' = { s with pools := setPool s.pools { p with enabled := en } }) ∨
    (findPool s val = none ∧
      s' = { s with lastPoolId := s.lastPoolId + 1,
                    pools := setPool s.pools { id := s.lastPoolId + 1, val := val, enabled := en, commission := c } }) := by
  revert h
  fun_cases upsertPool s sender val en c <;> try (intro h; cases h; done)
  next p hp _ => intro h; cases h; exact Or.inl ⟨p, hp, rfl⟩  -- existing pool, not slashed: the enabled flag
  next hp _ => intro h; cases h; exact Or.inr ⟨hp, rfl⟩  -- no pool yet: a new record with the next id

theorem claimMatured_some {s s' : St} {who : Nat} (h : claimMatured s who = some s') :
    ∃ (b : Bank) (keep : List Undel), claimMaturedAux who s.now s.undels s.bank = some (b, keep) ∧
      s' = { s with bank := b, undels := keep } := by
  revert h
  fun_cases claimMatured s who <;> try (intro h; cases h; done)
  next b keep haux => intro h; cases h; exact ⟨b, keep, haux, rfl⟩

theorem claimRewards_some {s s' : St} {who : Nat} (h : claimRewards s who = some s') :
    ∃ b, s.bank.send .fc (.user who) (rewardsOf s who) = some b ∧
      s' = { s with bank := b, rewards := removeRewards s.rewards who } := by
  revert h
  fun_cases claimRewards s who <;> try (intro h; cases h; done)
  next b hb => intro h; cases h; exact ⟨b, hb, rfl⟩

theorem transfer_some {s s' : St} {src dst : Nat} {c : Coins} (h : transfer s src dst c = some s') :
    ∃ b, s.bank.send (.user src) (.user dst) c = some b ∧ s' = { s with bank := b } := by
  revert h
  fun_cases transfer s src dst c <;> try (intro h; cases h; done)
  next b hb => intro h; cases h; exact ⟨b, hb, rfl⟩

theorem payFee_some {s s' : St} {src : Nat} {c : Coins} (h : payFee s src c = some s') :
    ∃ b, s.bank.send (.user src) .fc c = some b ∧ s' = { s with bank := b } := by
  revert h
  fun_cases payFee s src c <;> try (intro h; cases h; done)
  next b hb => intro h; cases h; exact ⟨b, hb, rfl⟩

theorem l2Burn_some {s s' : St} {a : Nat} {c : Coins} (h : l2Burn s a c = some s') :
    ∃ b, s.bank.burn (.user a) c = some b ∧ s' = { s with bank := b } := by
  revert h
  fun_cases l2Burn s a c <;> try (intro h; cases h; done)
  next b hb => intro h; cases h; exact ⟨b, hb, rfl⟩

theorem registerInPool_frame {s s' : St} {who : Nat} {p : Pool} (h : registerInPool s who p = some s') :
    ∃ dl, s' = { s with delegators := dl } := by
  revert h
  fun_cases registerInPool s who p <;> try (intro h; cases h; done)
  next => intro h; cases h; exact ⟨_, rfl⟩  -- already a delegator
  next => intro h; cases h; exact ⟨_, rfl⟩  -- the push-out refuses: `continue`
  next s1 hs1 _ => intro h; cases h; obtain ⟨dl, rfl⟩ := pushout_frame hs1; exact ⟨_, rfl⟩  -- holds the minimum: registered
  next s1 hs1 _ => intro h; cases h; exact pushout_frame hs1  -- does not hold it: only the push-out stays

theorem registerLoop_frame {who : Nat} {ps : List Pool} {s s' : St} (h : registerLoop who ps s = some s') :
    ∃ dl, s' = { s with delegators := dl } := by
  induction ps generalizing s with
  | nil => cases h; exact ⟨_, rfl⟩
  | cons p r ih =>
    unfold registerLoop at h
    split at h
    · cases h  -- the first pool fails (nil dereference)
    · rename_i s1 hs1  -- the first pool is done: the rest of the loop from `s1`
      obtain ⟨_, rfl⟩ := registerInPool_frame hs1
      obtain ⟨_, rfl⟩ := ih h
      exact ⟨_, rfl⟩

theorem registerDelegator_frame {s s' : St} {who : Nat} (h : registerDelegator s who = some s') :
    ∃ dl, s' = { s with delegators := dl } := registerLoop_frame h

theorem upsertTok_some {s s' : St} {id : Nat} {ti : TokInfo} (h : upsertTok s id ti = some s') :
    ((s.toks.filter (fun kv => kv.1 != id) ++ [(id, ti)]).map (fun t => t.2.stakeCap)).sum ≤ Dec.one ∧
      s' = { s with toks := s.toks.filter (fun kv => kv.1 != id) ++ [(id, ti)] } := by
  revert h
  fun_cases upsertTok s id ti <;> try (intro h; cases h; done)
  next hsum => intro h; cases h; exact ⟨hsum, rfl⟩

theorem registerTok_some {s s' : St} {id : Nat} {ti : TokInfo} (h : registerTok s id ti = some s') :
    0 < ti.feeRate ∧ 0 ≤ ti.stakeCap ∧ ti.stakeCap ≤ Dec.one ∧ ¬ s.toks.any (fun kv => kv.1 == id) = true ∧
      upsertTok s id ti = some s' := by
  revert h
  fun_cases registerTok s id ti <;> try (intro h; cases h; done)
  next hfee hneg hone hnew =>  -- `ValidateBasic` passed, the denomination is not registered yet
    intro h; exact ⟨Int.not_le.mp hfee, Int.not_lt.mp hneg, Int.not_lt.mp hone, hnew, h⟩

/-- one round of the autocompound loop. `rws`: the reward store with the delegator's entry rewritten (which entry is not said, nor
that `rws = s.rewards` where nothing changes). Not kept: whether the delegator was due (the interval test), that `auto` is not zero
where it is delegated, which coins are compounded and what is left recorded. -/
theorem autocompound_cons {val a : Nat} {rest : List Nat} {s s' : St} (h : autocompound val (a :: rest) s = some s') :
    ∃ rws, autocompound val rest { s with rewards := rws } = some s' ∨
      ∃ (auto : Coins) (b : Bank) (s2 : St), s.bank.send .fc (.user a) auto = some b ∧
        delegate { s with rewards := rws, bank := b } a val auto = some s2 ∧
        autocompound val rest
          { s2 with compound := setCompound s2.compound { compoundOf s a with lastExec := s2.height } } = some s' := by
  unfold autocompound at h
  dsimp only at h
  split at h
  · exact ⟨s.rewards, Or.inl h⟩  -- the interval has not passed
  split at h
  · cases h  -- no coins to compound could be computed
  rename_i auto s1 hstep  -- `auto`: the coins to compound, `s1`: the state with them taken out of the record
  obtain ⟨rws, rfl⟩ : ∃ rws, s1 = { s with rewards := rws } := by
    split at hstep
    · cases hstep; exact ⟨_, rfl⟩  -- `AllDenom`: all recorded rewards are taken
    split at hstep
    · cases hstep  -- a reward denom without registry entry
    split at hstep
    · split at hstep
      · cases hstep  -- the selection exceeds the record
      · cases hstep; exact ⟨_, rfl⟩  -- the selected denoms are taken out of the record
    · cases hstep; exact ⟨_, rfl⟩  -- nothing selected
  refine ⟨rws, ?_⟩
  split at h
  · exact Or.inl h  -- nothing to compound
  split at h
  · cases h  -- the fee collector cannot pay
  rename_i b hb
  split at h
  · cases h  -- the delegation fails
  rename_i s2 hs2
  exact Or.inr ⟨auto, b, s2, hb, hs2, h⟩  -- paid, delegated, `lastExec` set, on with the loop

/-- kept: the credits and that the autocompound loop follows; `dl` (the delegator set after the unregistrations) and `delegs` (the
delegators kept) are not said: `Closed.increasePoolRewards` reads neither. -/
theorem increasePoolRewards_some {s s' : St} {p : Pool} {rewards : Coins} (h : increasePoolRewards s p rewards = some s') :
    ∃ (dl : List (Nat × Nat)) (delegs : List Nat) (credits : List (Nat × Coins)),
      poolCredits { s with delegators := dl } delegs rewards (nz p.shares) = some credits ∧
      autocompound p.val delegs { s with delegators := dl, rewards := applyCredits s.rewards credits } = some s' := by
  revert h
  fun_cases increasePoolRewards s p rewards <;> try (intro h; cases h; done)
  next credits hcr => intro h; exact ⟨_, _, credits, hcr, h⟩  -- delegators below the minimum dropped, the rest credited, then the loop

/-- kept: the commission `c` joins the validator's rewards, and the pool's rewards (with the rest `q`), if any, go through
`IncreasePoolRewards`; how `c` and `q` come from the inflation cut is not said. -/
theorem poolPart_some {s0 s1 : St} {p : Pool} {pw infl : Nat} {valR poolR valR' : Coins}
    (h : poolPart s0 p pw infl valR poolR = some (valR', s1)) :
    ∃ c q : Nat, valR' = nz (addAll valR [(ukex, c)]) ∧
      (s1 = s0 ∨ increasePoolRewards s0 p (nz (addAll poolR [(ukex, q)])) = some s1) := by
  unfold poolPart at h
  dsimp only at h
  split at h
  · cases h  -- negative commission
  rename_i c _
  split at h
  · cases h  -- commission above the cut
  rename_i q _
  split at h
  · cases h; exact ⟨c, q, rfl, Or.inl rfl⟩  -- no pool rewards
  split at h
  · cases h  -- `IncreasePoolRewards` panics
  · rename_i hi  -- the pool's rewards are handed to `IncreasePoolRewards`
    cases h; exact ⟨c, q, rfl, Or.inr hi⟩

/-- kept: the pool part (if the proposer is known and has a pool), then the send of the validator's rewards, if any; the fee
split `valR` / `poolR` is not said: `Closed.payProposer` needs the shape only. -/
theorem payProposer_some {s0 s3 : St} {prev pw infl : Nat} {fees : Coins} (h : payProposer s0 prev pw infl fees = some s3) :
    ∃ (valR' : Coins) (s1 : St),
      (s1 = s0 ∨ ∃ (p : Pool) (valR poolR : Coins),
        findPool s0 prev = some p ∧ poolPart s0 p pw infl valR poolR = some (valR', s1)) ∧
      (s3 = s1 ∨ ∃ b, s1.bank.send .fc (.user prev) valR' = some b ∧ s3 = { s1 with bank := b }) := by
  unfold payProposer at h
  split at h
  · cases h; exact ⟨[], s0, Or.inl rfl, Or.inl rfl⟩  -- unknown proposer
  dsimp only at h
  split at h
  · cases h  -- the pool part panics
  rename_i valR' s1 hr  -- `valR'`: what the validator gets, `s1`: the state after the pool part
  refine ⟨valR', s1, ?_, ?_⟩
  · split at hr
    · cases hr; exact Or.inl rfl  -- the proposer has no pool
    · rename_i p hp  -- the proposer's pool gets its part
      exact Or.inr ⟨p, _, _, hp, hr⟩
  · split at h
    · cases h; exact Or.inl rfl  -- nothing for the validator
    split at h
    · cases h  -- the fee collector cannot pay
    · rename_i b hb  -- the validator's rewards go to the proposer's account
      cases h; exact Or.inr ⟨b, hb, rfl⟩

/-- not said: `infl > 0` where coins are minted -/
theorem mintInflation_some {s s0 : St} {infl : Nat} (h : mintInflation s infl = some s0) :
    s0 = s ∨ ∃ b, (s.bank.mint .mint [(ukex, infl)]).send .mint .fc [(ukex, infl)] = some b ∧ s0 = { s with bank := b } := by
  revert h
  fun_cases mintInflation s infl <;> try (intro h; cases h; done)
  next b hb => intro h; cases h; exact Or.inr ⟨b, hb, rfl⟩  -- minted to the mint account and passed on to the fee collector
  next => intro h; cases h; exact Or.inl rfl  -- no inflation due

/-- not said: `inflationPossible s`, that `infl` is `inflationRewards s`, `s.snapPeriod ≠ 0`, and what `fees` is (collector
balance − treasury, read before the mint) -/
theorem allocate_some {s s' : St} {prev : Nat} (h : allocate s prev = some s') :
    s' = s ∨ ∃ (infl : Nat) (s0 s3 : St) (fees : Coins), mintInflation s infl = some s0 ∧
      payProposer s0 prev (power s prev) infl fees = some s3 ∧ s' = { s3 with treasury := fcCoins s3 } := by
  revert h
  fun_cases allocate s prev <;> try (intro h; cases h; done)
  next => intro h; cases h; exact Or.inl rfl  -- the annual cap is reached: nothing is allocated
  next infl _ _ s0 hs0 _ fees s3 hs3 =>  -- inflation minted, the proposer paid, the treasury set to the collector's balance
    intro h; cases h; exact Or.inr ⟨infl, s0, s3, fees, hs0, hs3, rfl⟩

/-- not said: that the allocation runs exactly when `h > 1`, and that `prev` is the recorded `s.prevProposer` -/
theorem beginBlock_some {s s' : St} {h t p : Nat} {c : List Nat} (hb : beginBlock s h t p c = some s') :
    ∃ s1, (s1 = { s with height := h, now := t } ∨ ∃ prev, allocate { s with height := h, now := t } prev = some s1) ∧
      s' = { s1 with votes := (recordVotes s1.votes h c).filter (fun vh => !(vh.2 + s1.snapPeriod ≤ h)),
                     prevProposer := some p } := by
  unfold beginBlock at hb
  dsimp only at hb
  split at hb
  · cases hb  -- no proposer recorded, or the allocation panics
  rename_i s1 hs1  -- `s1`: the state after the allocation, if there was one
  cases hb
  refine ⟨s1, ?_, rfl⟩
  split at hs1
  · split at hs1  -- height > 1: allocate for the recorded proposer
    · cases hs1  -- none recorded
    · exact Or.inr ⟨_, hs1⟩
  · cases hs1; exact Or.inl rfl  -- first block: nothing to allocate

end Sekai.MultiStake
