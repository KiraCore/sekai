import SekaiProofs.Lemmas.Recovery
/-! The backing invariant `Backed` of the recovery module (C04): what the module account holds covers the recorded underlying
tokens plus the recorded holder rewards (with the range and sign conditions that make the sum meaningful) — preserved by every
operation whose signers, rotated addresses and targets are user accounts of the range; the recipient of a bank send may also be the
module or the fee-collector account (`op.within n`). -/
namespace Sekai.Recovery

/-- `Σ_{a<n} f a` (`Bank.totalF` of Base/Bank is the same sum with a denomination argument) -/
def sumF (f : Nat → Int) : Nat → Int
  | 0 => 0
  | n + 1 => sumF f n + f n

theorem sumF_congr {f g : Nat → Int} {n : Nat} (h : ∀ a, a < n → f a = g a) : sumF f n = sumF g n := by
  induction n with
  | zero => rfl
  | succ k ih =>
    simp only [sumF]
    rw [ih (fun a ha => h a (Nat.lt_succ_of_lt ha)), h k (Nat.lt_succ_self k)]

theorem sumF_zero (f : Nat → Int) (n : Nat) (h : ∀ a, a < n → f a = 0) : sumF f n = 0 := by
  induction n with
  | zero => rfl
  | succ k ih =>
    simp only [sumF]
    rw [ih (fun a ha => h a (Nat.lt_succ_of_lt ha)), h k (Nat.lt_succ_self k)]; rfl

theorem sumF_upd_out (f : Nat → Int) (a : Nat) (x : Int) (n : Nat) (ha : n ≤ a) :
    sumF (fun b => if b = a then x else f b) n = sumF f n :=
  sumF_congr (fun c hc => if_neg (by omega))

theorem sumF_upd (f : Nat → Int) (a : Nat) (x : Int) (n : Nat) (ha : a < n) :
    sumF (fun b => if b = a then x else f b) n = sumF f n - f a + x := by
  induction n with
  | zero => omega
  | succ k ih =>
    simp only [sumF]
    by_cases hk : a = k
    · subst hk
      rw [sumF_upd_out f a x a (Nat.le_refl a), if_pos rfl]
      omega
    · rw [ih (by omega), if_neg (fun e => hk e.symm)]
      omega

theorem sumF_creditAll (S : State) (d : Denom) (amt sup : Int) (hs : List Addr) (f : Addr → Int) (n : Nat) (hin : ∀ h ∈ hs, h < n) :
    sumF (creditAll S d amt sup hs f) n = sumF f n + sumAlloc S d amt sup hs := by
  induction hs generalizing f with
  | nil => simp [creditAll, sumAlloc]
  | cons h rest ih =>
    simp only [creditAll, sumAlloc]
    rw [ih _ (fun x hx => hin x (List.mem_cons_of_mem _ hx))]
    rw [sumF_upd f h _ n (hin h List.mem_cons_self)]
    omega

def und (S : State) (a : Addr) : Int :=
  match S.token a with
  | some t => t.underlying
  | none => 0

def owed (S : State) (n : Nat) : Int := sumF (und S) n + sumF S.hRewards n

/-- the backing invariant over the account range `0..n-1`. The stores are total functions of the address, so the sums need a
bound; `holdersIn`, `tokIn`, `rewIn` say that nothing is recorded outside it -/
structure Backed (n : Nat) (S : State) : Prop where
  solvent : owed S n ≤ S.bal modAcc ukex
  undNonneg : ∀ a t, S.token a = some t → 0 ≤ t.underlying
  holdersIn : ∀ h ∈ S.holders, h.2 < n
  tokIn : ∀ a t, S.token a = some t → a < n
  rewIn : ∀ a, S.hRewards a ≠ 0 → a < n

def User (n : Nat) (a : Addr) : Prop := a < n ∧ a ≠ modAcc ∧ a ≠ feeAcc

def Op.within (n : Nat) : Op → Prop
  | .register a _ _ => User n a
  | .rotateSecret m => User n m.feePayer ∧ User n m.addr ∧ User n m.recovery
  | .rotateHolder m => User n m.holder ∧ User n m.addr ∧ User n m.recovery
  | .issue a => User n a
  | .burn a _ _ => User n a
  | .claim a => User n a
  | .regHolder a => User n a
  | .allocate v _ => User n v
  | .xfer a b _ _ => User n a ∧ (User n b ∨ b = modAcc ∨ b = feeAcc)

/-- `und` with the token store as its argument (`und_eq`): `und` and `owed` read the token store only, and the sums below are about
a store `tk`, whatever state it sits in -/
def undOf (tk : Addr → Option Token) (a : Addr) : Int :=
  match tk a with
  | some t => t.underlying
  | none => 0

theorem und_eq (S : State) : und S = undOf S.token := rfl

theorem owed_eq (S : State) (n : Nat) : owed S n = sumF (undOf S.token) n + sumF S.hRewards n := rfl

theorem sumF_undOf_set (tk : Addr → Option Token) (v : Addr) (o : Option Token) (n : Nat) (hv : v < n) :
    sumF (undOf fun a => if a = v then o else tk a) n = sumF (undOf tk) n - undOf tk v + undOf (fun _ => o) v := by
  rw [← sumF_upd (undOf tk) v _ n hv]
  apply sumF_congr
  intro a _
  by_cases e : a = v <;> simp only [undOf, e, if_true, if_false]

theorem undOf_nonneg {tk : Addr → Option Token} (h : ∀ a t, tk a = some t → 0 ≤ t.underlying) (a : Addr) : 0 ≤ undOf tk a := by
  unfold undOf
  split
  · exact h a _ (by assumption)
  · exact Int.le_refl 0

/-- a store the operation did not write needs no argument (the default proofs): pass `(htok := …)`, `(hhold := …)`, `(hrew := …)`
only for the stores it wrote -/
theorem Backed.of_entries {n : Nat} {S S' : State} (hb : Backed n S) (hsolv : owed S' n ≤ S'.bal modAcc ukex)
    (htok : ∀ a t, S'.token a = some t → S.token a = some t ∨ (a < n ∧ 0 ≤ t.underlying) := by exact fun _ _ h => .inl h)
    (hhold : ∀ h ∈ S'.holders, h ∈ S.holders ∨ h.2 < n := by exact fun _ h => .inl h)
    (hrew : ∀ a, S'.hRewards a ≠ 0 → S.hRewards a ≠ 0 ∨ a < n := by exact fun _ h => .inl h) : Backed n S' where
  solvent := hsolv
  undNonneg a t h := (htok a t h).elim (hb.undNonneg a t) (·.2)
  holdersIn h hh := (hhold h hh).elim (hb.holdersIn h) id
  tokIn a t h := (htok a t h).elim (hb.tokIn a t) (·.1)
  rewIn a h := (hrew a h).elim (hb.rewIn a) id

/-- discharges `htok` of `Backed.of_entries` -/
theorem token_set_cases {n : Nat} {tk : Addr → Option Token} {v : Addr} {o : Option Token} (hv : v < n)
    (ho : ∀ t, o = some t → 0 ≤ t.underlying) (a : Addr) (t : Token) (h : (if a = v then o else tk a) = some t) :
    tk a = some t ∨ (a < n ∧ 0 ≤ t.underlying) := by
  split at h
  · rename_i e; exact .inr ⟨e ▸ hv, ho t h⟩
  · exact .inl h

/-- minting `d` and handing it out leaves the module's `ukex` where it was, also when `d = ukex` -/
theorem mint_send_mod_ukex {S1 S3 : State} {b : Addr} {d : Denom} {x : Int}
    (h : send (mint S1 d x) modAcc b d x = .ok S3) (hb : b ≠ modAcc) : S3.bal modAcc ukex = S1.bal modAcc ukex := by
  rw [send_bal h]
  by_cases hd : ukex = d
  · subst hd
    simp [mint_bal, Ne.symm hb]
  · simp [mint_bal, hd]

/-- taking `d` in and burning it leaves the module's `ukex` where it was, also when `d = ukex` -/
theorem send_burn_mod_ukex {S1 S2 S3 : State} {b : Addr} {d : Denom} {x : Int}
    (h2 : send S1 b modAcc d x = .ok S2) (h3 : burnCoins S2 d x = .ok S3) (hb : b ≠ modAcc) :
    S3.bal modAcc ukex = S1.bal modAcc ukex := by
  obtain ⟨_, _, rfl⟩ := burnCoins_ok h3
  simp only [send_bal h2, true_and]
  by_cases hd : ukex = d
  · subst hd
    simp [hb, Ne.symm hb]
  · simp [hd]

theorem backed_send_user {n : Nat} {S S' : State} {src dst : Addr} {d : Denom} {amt : Int} (hb : Backed n S)
    (h : send S src dst d amt = .ok S') (hsrc : src ≠ modAcc) : Backed n S' := by
  have e := send_bal_ge h (Ne.symm hsrc) ukex
  rw [send_writes h]
  exact hb.of_entries (Int.le_trans hb.solvent e)

theorem backed_step {n : Nat} {S : State} (op : Op) (hb : Backed n S) (hw : op.within n) : Backed n (step S op) := by
  refine step_cases hb fun S' hap => ?_
  -- every arithmetic goal below is `hsolv` plus what the operation moved; `omega` finds both in the context
  have hsolv := hb.solvent
  rw [owed_eq] at hsolv
  cases op with
  | register b c p =>
    obtain ⟨_, _, rfl⟩ := registerSecret_ok hap
    exact hb.of_entries hb.solvent
  | rotateSecret m =>
    -- the module gains the fee; `moveCoins` does not reach it
    obtain ⟨hp, ha, hr⟩ := hw
    obtain ⟨S1, R, c, rfl, hc⟩ := rotateBySecret_ok hap
    refine hb.of_entries (Int.le_trans hb.solvent ?_)
    show S.bal modAcc ukex ≤ (moveCoins m.addr m.recovery S1).bal modAcc ukex
    rw [moveCoins_bal_other S1 ukex (Ne.symm ha.2.1) (Ne.symm hr.2.1)]
    exact send_bal_ge hc.fee (Ne.symm hp.2.1) ukex
  | rotateHolder m =>
    obtain ⟨_, ha, hr⟩ := hw
    obtain ⟨tok, R, c, rfl, hc⟩ := rotateByHolder_ok hap
    refine hb.of_entries ?_ (htok := ?_)
    · simp only [owed_eq, sumF_undOf_set _ _ _ n hr.1, sumF_undOf_set _ _ _ n ha.1]
      have h1 : undOf S.token m.addr = tok.underlying := by simp only [undOf, hc.token]
      have h2 := undOf_nonneg (tk := fun a => if a = m.addr then none else S.token a)
        (fun a t e => (token_set_cases (o := none) ha.1 nofun a t e).elim (hb.undNonneg a t) (·.2)) m.recovery
      simp only [undOf] at h1 h2 ⊢
      -- the amount of the record leaves the sum at the old address and enters it at the new one; what the target had recorded
      -- there (`h2`: not negative) drops out
      omega
    · intro a t hta
      rcases token_set_cases (tk := fun a => if a = m.addr then none else S.token a) (o := some tok) hr.1
        (fun t e => by cases e; exact hb.undNonneg _ _ hc.token) a t hta with h' | h'
      · exact token_set_cases (o := none) ha.1 nofun a t h'
      · exact .inr h'
  | issue b =>
    -- the module gains the bond (the minted coins pass through), the new record owes the bond
    obtain ⟨S1, S3, rfl, hnone, hs1, _, hs3⟩ := issue_ok hap
    obtain ⟨hbond, _, _⟩ := send_ok hs1
    have hbm : b ≠ modAcc := hw.2.1
    refine hb.of_entries ?_ (htok := token_set_cases hw.1 (fun t e => by cases e; exact hbond))
    simp only [owed_eq, sumF_undOf_set _ _ _ n hw.1, mint_send_mod_ukex hs3 hbm, send_bal_dst hs1 hbm, undOf, hnone]
    omega
  | burn b d amt =>
    -- the module pays the redeem amount (the rr coins it takes in are burnt), the record loses the same amount
    obtain ⟨owner, tok, S1, S2, S3, rfl, hs⟩ := burn_ok hap
    have hbm : b ≠ modAcc := hw.2.1
    have hmod : S3.bal modAcc ukex = S.bal modAcc ukex - redeemOf tok amt :=
      (send_burn_mod_ukex hs.taken hs.burnt hbm).trans (payRedeem_bal hs.redeem hbm).1
    have ht := hs.token
    have hown : owner < n := hb.tokIn owner tok ht
    refine hb.of_entries ?_ (htok := token_set_cases hown (fun t e => ?_))
    · have hnn := hb.undNonneg _ _ ht
      have hcov := hs.covered
      by_cases h0 : tok.rrSupply - amt = 0 <;>
        simp only [owed_eq, sumF_undOf_set _ _ _ n hown, hmod, undOf, ht, h0, if_true, if_false] <;> omega
    · split at e
      · cases e
      · cases e; exact hs.covered
  | claim b =>
    obtain ⟨S1, hs, rfl⟩ := claim_ok hap
    have hbm : b ≠ modAcc := hw.2.1
    refine hb.of_entries ?_ (hrew := fun a ha => ?_)
    · simp only [owed_eq, sumF_upd _ b _ n hw.1, send_bal_src hs (Ne.symm hbm)]
      omega
    · dsimp only at ha
      split at ha
      · exact absurd rfl ha
      · exact .inl ha
  | regHolder b =>
    obtain ⟨hs, rfl, hnew⟩ := registerHolder_ok hap
    exact hb.of_entries hb.solvent (hhold := fun x hx => (hnew x hx).imp_right (fun (e : x.2 = b) => e.symm ▸ hw.1))
  | allocate v amt =>
    rcases allocate_ok hap with ⟨_, hs⟩ | ⟨tok, S1, S2, rfl, ht, hs, rfl, htot⟩
    · exact backed_send_user hb hs (by decide)
    · -- the module gains `amt`; the holders are credited Σ allocations, the record the rest
      have hh : S1.holders = S.holders := (send_frame hs).holders
      have hsIn : ∀ h ∈ holdersOf (unregisterLow S1 tok.denom) tok.denom, h < n := by
        intro h hm
        obtain ⟨x, hx, rfl⟩ := List.mem_map.mp (mem_holdersOf_unregisterLow hh hm)
        exact hb.holdersIn x (List.mem_filter.mp hx).1
      have hnn := hb.undNonneg v tok ht
      refine hb.of_entries ?_ (htok := token_set_cases hw.1 (fun t e => by cases e; show 0 ≤ tok.underlying + _; omega))
        (hhold := fun h hm => .inl (hh ▸ (List.mem_filter.mp hm).1)) (hrew := fun a ha => ?_)
      · simp only [owed_eq, sumF_undOf_set _ _ _ n hw.1, sumF_creditAll _ _ _ _ _ _ n hsIn,
          send_bal_dst hs (by decide : feeAcc ≠ modAcc), undOf, ht]
        omega
      · by_cases hmem : a ∈ holdersOf (unregisterLow S1 tok.denom) tok.denom
        · exact .inr (hsIn a hmem)
        · left
          have : creditAll _ _ _ _ _ S.hRewards a ≠ 0 := ha
          rwa [creditAll_other _ _ _ _ _ _ _ hmem] at this
  | xfer b c d amt =>
    exact backed_send_user hb hap hw.1.2.1

end Sekai.Recovery
