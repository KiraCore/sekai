/-
Application wiring (app/app.go, app/ante/ante.go) as far as the block-level models rely on it.
The facts themselves are regenerated on every run (`Sekai.Gen.App`); this file only holds the small decidable
vocabulary in which the property files state what they need from that wiring: presence, uniqueness and
precedence inside an ordered list, and the permission sets of module accounts.
-/
namespace Sekai.App

/-- position of the first occurrence -/
def idx (l : List String) (a : String) : Option Nat :=
  match l with
  | [] => none
  | x :: xs => if x = a then some 0 else (idx xs a).map (· + 1)

/-- number of occurrences -/
def occ (l : List String) (a : String) : Nat := (l.filter (· = a)).length

/-- `a` occurs exactly once -/
def once (l : List String) (a : String) : Bool := occ l a == 1

/-- both occur exactly once and `a` comes first -/
def before (l : List String) (a b : String) : Bool :=
  once l a && once l b &&
  match idx l a, idx l b with
  | some i, some j => i < j
  | _, _ => false

/-- every element of the chain `cs` occurs once in `l`, in this relative order -/
def inOrder (l : List String) : List String → Bool
  | [] => true
  | [a] => once l a
  | a :: b :: rest => before l a b && inOrder l (b :: rest)

/-- no row of the generated table is an `unrecognised:` marker -/
def recognised (l : List String) : Bool := l.all fun s => !s.startsWith "unrecognised"

/-- module accounts holding permission `p` -/
def holders (macc : List (String × List String)) (p : String) : List String :=
  (macc.filter fun m => m.2.contains p).map (·.1)

/-- the module-name constant a bank call site names: `types.ModuleName` inside x/<m>/… is `<m>types.ModuleName`
(the import aliases of app.go follow that spelling; `customgov`/`customstaking`/`customslashing` live under
x/gov, x/staking, x/slashing) -/
def untilBar : List Char → List Char
  | ' ' :: '|' :: _ => []
  | c :: cs => c :: untilBar cs
  | [] => []

def siteModule (file arg : String) : String :=
  let first := String.ofList (untilBar arg.toList)
  if first = "types.ModuleName" then
    match file.toList with
    | 'x' :: '/' :: rest => String.ofList (rest.takeWhile (· ≠ '/')) ++ "types.ModuleName"
    | _ => first
  else first

/-! ### a chain of ante decorators (`sdk.ChainAnteDecorators`): each decorator rejects, hands on to the next one, or
- the shape `Gen.App.anteEarlyAccepts` lists - returns success itself without calling `next` -/

inductive Verdict | reject | next | acceptEarly
deriving DecidableEq, Repr

/-- (accepted?, number of decorators that ran) -/
def runChain {α : Type} : List (α → Verdict) → α → Bool × Nat
  | [], _ => (true, 0)
  | d :: ds, tx =>
    match d tx with
    | .reject => (false, 1)
    | .acceptEarly => (true, 1)
    | .next => let r := runChain ds tx; (r.1, r.2 + 1)

/-- in a chain none of whose decorators accepts early, an accepted transaction has passed EVERY decorator -/
theorem accepted_passed_all {α : Type} (ds : List (α → Verdict)) (tx : α)
    (h : ∀ d ∈ ds, d tx ≠ .acceptEarly) (hacc : (runChain ds tx).1 = true) :
    (runChain ds tx).2 = ds.length ∧ ∀ d ∈ ds, d tx = .next := by
  fun_induction runChain ds tx
  next => simp                                                                -- the empty chain
  next => cases hacc                                                          -- the first decorator rejects
  next d _ _ hv => exact absurd hv (h d (List.mem_cons_self ..))              -- … accepts early
  next d ds tx hv r ih =>                                                     -- … hands on: the rest of the chain
    have := ih (fun d' hd' => h d' (List.mem_cons_of_mem _ hd')) hacc
    exact ⟨congrArg (· + 1) this.1, List.forall_mem_cons.mpr ⟨hv, this.2⟩⟩

/-- with an early accept the rest of the chain does not run -/
example : runChain [fun (_ : Nat) => Verdict.next, fun _ => .acceptEarly, fun _ => .reject] 0 = (true, 2) := by decide

theorem before_irrefl_example : before ["a", "b", "c"] "a" "c" = true ∧ before ["a", "b", "c"] "c" "a" = false ∧
    before ["a", "b", "a"] "a" "b" = false := by decide

end Sekai.App
